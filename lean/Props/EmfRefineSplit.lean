import Props.EmfRefineValidate
import Props.EmfRefineMetric
import Props.C02
/-!
The buffers of the operational writer while it takes an entry, and what `finish` writes from them. The
dimension-set map is described by an abstract list of entries (key, index, metric members, declarations);
`finish_split` gives the bytes of every split record, in map order, then the no-dimension record unless it is
redundant.
-/
namespace EmfRefine
open JsonTree Json EmfSpec

variable {F : Type}

/-- `,"name":"value"` for every string item -/
def strBytes (l : List (Str × Str)) : List Nat :=
  (l.map fun p => 44 :: (jstr p.1 ++ 58 :: jstr p.2)).flatten

def dimsOf (c : Emf.Consts) (sets : List (List Str)) : List (List Nat) :=
  c.eachDims.flatMap fun d => sets.map fun e => Emf.extendWithStrings d e

/-- `entry_dimensions` after the items `e` when no error was reported -/
def edAfter (c : Emf.Consts) (cur : Option (List (List Nat))) (e : Entry F) : Option (List (List Nat)) :=
  match cur with
  | some d => some d
  | none => match entryDimsItems e with
    | [] => none
    | sets :: _ => some (dimsOf c sets)

def tsAfter (cur : Option Int) (e : Entry F) : Option Int :=
  match (timestamps e).getLast? with
  | some t => some t
  | none => cur

/-- the parts of the writer `finish` reads besides the three record buffers -/
structure Rest (c : Emf.Consts) (w w1 : Emf.Writer) (e : Entry F) : Prop where
  decl : w1.st.declBuf = w.st.declBuf
  dbuf : w1.st.dimensionsBuf = w.st.dimensionsBuf
  ts : w1.timestamp = tsAfter w.timestamp e
  ed : w1.entryDims = edAfter c w.entryDims e

theorem err_errors_ne (w : Emf.Writer) (k : Emf.ErrKind) : (w.err k).errors ≠ [] := by
  simp [Emf.Writer.err]

theorem edAfter_noItems (c : Emf.Consts) (cur : Option (List (List Nat))) (e : Entry F) (h : entryDimsItems e = []) :
    edAfter c cur e = cur := by
  unfold edAfter
  cases cur with
  | some d => rfl
  | none => simp [h]

theorem tsAfter_noItems (cur : Option Int) (e : Entry F) (h : timestamps e = []) : tsAfter cur e = cur := by
  simp [tsAfter, h]

theorem Rest.of_frame {c : Emf.Consts} {w w1 : Emf.Writer} {e : Entry F} (h1 : w1.st.declBuf = w.st.declBuf)
    (h2 : w1.st.dimensionsBuf = w.st.dimensionsBuf) (h3 : w1.timestamp = w.timestamp) (h4 : w1.entryDims = w.entryDims)
    (he1 : timestamps e = [] := by rfl) (he2 : entryDimsItems e = [] := by rfl) : Rest c w w1 e :=
  ⟨h1, h2, by rw [h3, tsAfter_noItems _ _ he1], by rw [h4, edAfter_noItems c _ _ he2]⟩

theorem strItems_cons (it : Item F) (e : Entry F) : strItems (it :: e) = strItems [it] ++ strItems e := by
  cases it with
  | value n v => cases v <;> rfl
  | _ => rfl

theorem metricItems_cons (it : Item F) (e : Entry F) : metricItems (it :: e) = metricItems [it] ++ metricItems e := by
  cases it with
  | value n v => cases v <;> rfl
  | _ => rfl

theorem fieldsOf_append (ops : FloatOps F) (mult : Option Nat) (a b : List (Str × Metric F)) :
    fieldsOf ops mult (a ++ b) = fieldsOf ops mult a ++ fieldsOf ops mult b := by
  simp [fieldsOf, List.filterMap_append]

theorem declsOf_append (ops : FloatOps F) (mult : Option Nat) (a b : List (Str × Metric F)) :
    declsOf ops mult (a ++ b) = declsOf ops mult a ++ declsOf ops mult b := by
  simp [declsOf, List.filterMap_append]

theorem fieldBytes_append (txt : F → List Nat) (a b : List (Str × MVal F)) :
    fieldBytes txt (a ++ b) = fieldBytes txt a ++ fieldBytes txt b := by
  simp [fieldBytes]

theorem fieldBytes_isEmpty (txt : F → List Nat) (l : List (Str × MVal F)) : (fieldBytes txt l).isEmpty = l.isEmpty := by
  cases l <;> simp [fieldBytes]

theorem strBytes_append (a b : List (Str × Str)) : strBytes (a ++ b) = strBytes a ++ strBytes b := by
  simp [strBytes]

theorem tsAfter_cons (cur : Option Int) (it : Item F) (e : Entry F) :
    tsAfter (tsAfter cur [it]) e = tsAfter cur (it :: e) := by
  cases it with
  | timestamp t =>
    simp only [tsAfter, timestamps, List.getLast?_cons]
    cases (timestamps e).getLast? <;> rfl
  | value n v => cases v <;> rfl
  | _ => rfl

theorem edAfter_cons (c : Emf.Consts) (cur : Option (List (List Nat))) (it : Item F) (e : Entry F) :
    edAfter c (edAfter c cur [it]) e = edAfter c cur (it :: e) := by
  cases cur with
  | some d => rfl
  | none =>
    cases it with
    | value n v => cases v <;> rfl
    | _ => rfl

/-- what a `MetricsForDimensionSet` holds, abstractly -/
structure AEntry (F : Type) where
  key : Key
  index : Nat
  fields : List (Str × MVal F)
  decls : List Decl

/-- an entry without its index: all that the bytes of its record depend on -/
abbrev Tri (F : Type) := Key × List (Str × MVal F) × List Decl

def tri (a : AEntry F) : Tri F := (a.key, a.fields, a.decls)

/-- the fixed prefix of a dimension-set entry's `metrics_buf` -/
def dimMetricsPrefix (c : Emf.Consts) (ed : List (List Nat)) (key : Key) : List Nat :=
  (Emf.awsOpen ++ c.ns0) ++ Emf.dimensionsAfterNs ++
    sepBy [44] (ed.map fun d => Emf.extendWithStrings d (key.map (·.1))) ++ Emf.metricsPrefix

def conc (txt : F → List Nat) (c : Emf.Consts) (ed : List (List Nat)) (a : AEntry F) : Emf.DimEntry where
  key := a.key
  fieldsBuf := ⟨(Emf.dimFieldsPrefix a.key).length, Emf.dimFieldsPrefix a.key ++ fieldBytes txt a.fields⟩
  metricsBuf := ⟨(dimMetricsPrefix c ed a.key).length,
                  dimMetricsPrefix c ed a.key ++ printElems (a.decls.map declJson)⟩
  afterNsIndex := (Emf.awsOpen ++ c.ns0).length
  index := a.index

theorem new_eq_conc (txt : F → List Nat) (c : Emf.Consts) (ed : List (List Nat)) (k : Key) (i : Nat) :
    Emf.DimEntry.new c.ns0 ed k i = conc txt c ed (⟨k, i, [], []⟩ : AEntry F) := by
  simp [Emf.DimEntry.new, conc, Emf.PBuf.new, fieldBytes, printElems, dimMetricsPrefix]

def adFind? (ad : List (AEntry F)) (k : Key) : Option (AEntry F) :=
  ad.find? fun a => decide (a.key = k)

/-- append members and declarations to every entry with key `k` (there is at most one) -/
def adUpd (ad : List (AEntry F)) (k : Key) (Fs : List (Str × MVal F)) (Ds : List Decl) : List (AEntry F) :=
  ad.map fun a => if a.key = k then { a with fields := a.fields ++ Fs, decls := a.decls ++ Ds } else a

theorem dimFind_map (txt : F → List Nat) (c : Emf.Consts) (ed : List (List Nat)) (ad : List (AEntry F)) (k : Key) :
    Emf.dimFind? (ad.map (conc txt c ed)) k = (adFind? ad k).map (conc txt c ed) := by
  rw [dimFind_eq, List.find?_map]; rfl

theorem adFind_none (ad : List (AEntry F)) (k : Key) : adFind? ad k = none ↔ k ∉ ad.map (·.key) := by
  simp [adFind?]

theorem adFind_some {ad : List (AEntry F)} {k : Key} {a : AEntry F} (h : adFind? ad k = some a) :
    a ∈ ad ∧ a.key = k :=
  ⟨List.mem_of_find?_eq_some h, by simpa using List.find?_some h⟩

theorem dimSet_map (txt : F → List Nat) (c : Emf.Consts) (ed : List (List Nat)) (ad : List (AEntry F)) (k : Key)
    (Fs : List (Str × MVal F)) (Ds : List Decl) (a0 : AEntry F)
    (hfind : adFind? ad k = some a0) (hn : (ad.map (·.key)).Nodup) :
    Emf.dimSet (ad.map (conc txt c ed)) (conc txt c ed { a0 with fields := a0.fields ++ Fs, decls := a0.decls ++ Ds })
      = (adUpd ad k Fs Ds).map (conc txt c ed) := by
  induction ad with
  | nil => simp [adFind?] at hfind
  | cons x rest ih =>
    simp only [List.map_cons, List.nodup_cons] at hn
    simp only [adFind?, List.find?_cons] at hfind
    by_cases hx : x.key = k
    · simp only [hx, decide_true, Option.some.injEq] at hfind
      subst hfind
      have hrest : ∀ y ∈ rest, ¬ y.key = k := by
        intro y hy e
        exact hn.1 (List.mem_map.mpr ⟨y, hy, by rw [e, hx]⟩)
      have : rest.map (fun a => if a.key = k then { a with fields := a.fields ++ Fs, decls := a.decls ++ Ds } else a)
          = rest := by
        exact (List.map_congr_left fun y hy => if_neg (hrest y hy)).trans (List.map_id' rest)
      simp [Emf.dimSet, adUpd, conc, hx, this]
    · simp only [hx, decide_false] at hfind
      have hk : a0.key = k := (adFind_some hfind).2
      have hne : ¬ x.key = a0.key := by rw [hk]; exact hx
      have := ih hfind hn.2
      simp only [List.map_cons, Emf.dimSet, conc, hne, if_false, adUpd, hx] at this ⊢
      rw [this]

/-- the abstract effect of a metric routed to the dimension set `k` -/
def adAdd (ops : FloatOps F) (mult : Option Nat) (ad : List (AEntry F)) (k : Key) (name : Str) (m : Metric F) :
    List (AEntry F) :=
  match adFind? ad k with
  | some _ => adUpd ad k (fieldsOf ops mult [(name, m)]) (declsOf ops mult [(name, m)])
  | none => ad ++ [⟨k, ad.length + 1, fieldsOf ops mult [(name, m)], declsOf ops mult [(name, m)]⟩]

theorem adUpd_keys (ad : List (AEntry F)) (k : Key) (Fs : List (Str × MVal F)) (Ds : List Decl) :
    (adUpd ad k Fs Ds).map (·.key) = ad.map (·.key) := by
  rw [adUpd, List.map_map]
  refine List.map_congr_left fun a _ => ?_
  rw [Function.comp_apply]
  split <;> rfl

theorem adAdd_keys_nodup (ops : FloatOps F) (mult : Option Nat) (ad : List (AEntry F)) (k : Key) (name : Str)
    (m : Metric F) (hn : (ad.map (·.key)).Nodup) : ((adAdd ops mult ad k name m).map (·.key)).Nodup := by
  unfold adAdd
  cases hf : adFind? ad k with
  | some a => dsimp only; rw [adUpd_keys]; exact hn
  | none =>
    rw [List.map_append, List.nodup_append]
    refine ⟨hn, by simp, fun a ha b hb => ?_⟩
    rw [List.mem_singleton.mp hb]
    rintro rfl
    exact (adFind_none ad _).mp hf ha

theorem split_write (ops : FloatOps F) (txt : F → List Nat) {mult : Option Nat} (hm : multOk mult)
    (c : Emf.Consts) (ed : List (List Nat)) (ad : List (AEntry F)) (hn : (ad.map (·.key)).Nodup)
    (k : Key) (name : Str) (m : Metric F) :
    let dm := ad.map (conc txt c ed)
    let entry := match Emf.dimFind? dm k with
      | some e => e
      | none => Emf.DimEntry.new c.ns0 ed k (dm.length + 1)
    let r := Emf.writeMetric name entry.fieldsBuf entry.metricsBuf (Emf.PBuf.new Emf.countsPrefix)
      (m.obs.map (toEmfObs ops txt)) m.unit (toEmfFlags m.flag) mult
    Emf.dimSet dm { entry with fieldsBuf := r.1, metricsBuf := r.2.1 } = (adAdd ops mult ad k name m).map (conc txt c ed) ∧
    r.2.2 = Emf.PBuf.new Emf.countsPrefix := by
  simp only [dimFind_map]
  unfold adAdd
  cases hf : adFind? ad k with
  | some a0 =>
    simp only [Option.map_some]
    have hw := writeMetric_eq ops txt hm name (conc txt c ed a0).fieldsBuf (dimMetricsPrefix c ed a0.key) a0.decls m
    have hmb : (conc txt c ed a0).metricsBuf = ⟨(dimMetricsPrefix c ed a0.key).length,
        dimMetricsPrefix c ed a0.key ++ printElems (a0.decls.map declJson)⟩ := rfl
    rw [hmb, hw]
    refine ⟨?_, rfl⟩
    have := dimSet_map txt c ed ad k (fieldsOf ops mult [(name, m)]) (declsOf ops mult [(name, m)]) a0 hf hn
    rw [← this]
    congr 1
    simp [conc, fieldBytes_append, List.append_assoc]
  | none =>
    simp only [Option.map_none, List.length_map]
    rw [new_eq_conc txt]
    have hw := writeMetric_eq ops txt hm name (conc txt c ed (⟨k, ad.length + 1, [], []⟩ : AEntry F)).fieldsBuf
      (dimMetricsPrefix c ed k) [] m
    have hmb : (conc txt c ed (⟨k, ad.length + 1, [], []⟩ : AEntry F)).metricsBuf = ⟨(dimMetricsPrefix c ed k).length,
        dimMetricsPrefix c ed k ++ printElems (([] : List Decl).map declJson)⟩ := rfl
    rw [hmb, hw]
    refine ⟨?_, rfl⟩
    have hk := (adFind_none ad k).mp hf
    rw [dimSet_absent]
    · simp [conc, fieldBytes]
    · simpa [conc, List.map_map, Function.comp_def] using hk

def adStep (cfg : Config) (ops : FloatOps F) (mult : Option Nat) (ad : List (AEntry F)) : Item F → List (AEntry F)
  | .value name (.metric m) =>
    match routeOf cfg m with
    | none => ad
    | some k => adAdd ops mult ad k name m
  | _ => ad

/-- the buffers of the writer: the no-dimension record's and the dimension-set map -/
structure Shape3 (txt : F → List Nat) (c : Emf.Consts) (w : Emf.Writer) (S Fd : List Nat) (Ds : List Decl)
    (ad : List (AEntry F)) : Prop where
  dm : w.st.dimMap = ad.map (conc txt c (w.entryDims.getD c.eachDims))
  nd : (ad.map (·.key)).Nodup
  sf : w.st.stringFieldsBuf = ⟨0, S⟩
  f : w.st.fieldsBuf = ⟨1, 125 :: Fd⟩
  m : w.st.metricsBuf = ⟨Emf.metricsPrefix.length, Emf.metricsPrefix ++ printElems (Ds.map declJson)⟩
  c : w.st.countsBuf = Emf.PBuf.new Emf.countsPrefix

theorem Shape3.congr {txt : F → List Nat} {c : Emf.Consts} {w w1 : Emf.Writer} {S Fd S' Fd' : List Nat}
    {Ds Ds' : List Decl} {ad ad' : List (AEntry F)} (h : Shape3 txt c w S Fd Ds ad)
    (hst : w1.st = w.st) (hed : ad = [] ∨ w1.entryDims = w.entryDims) (hS : S' = S) (hF : Fd' = Fd) (hD : Ds' = Ds)
    (ha : ad' = ad) : Shape3 txt c w1 S' Fd' Ds' ad' := by
  subst hS hF hD ha
  refine ⟨?_, h.nd, by rw [hst]; exact h.sf, by rw [hst]; exact h.f, by rw [hst]; exact h.m, by rw [hst]; exact h.c⟩
  rcases hed with rfl | hed
  · rw [hst, h.dm, List.map_nil, List.map_nil]
  · rw [hst, hed]; exact h.dm

/-- for an item that is neither a string nor a metric: the lists appended are `[]` by evaluation -/
theorem Shape3.frame {txt : F → List Nat} {c : Emf.Consts} {w w1 : Emf.Writer} {S Fd : List Nat}
    {Ds : List Decl} {ad : List (AEntry F)} (h : Shape3 txt c w S Fd Ds ad)
    (hst : w1.st = w.st) (hed : ad = [] ∨ w1.entryDims = w.entryDims) : Shape3 txt c w1 (S ++ []) (Fd ++ []) (Ds ++ []) ad :=
  h.congr hst hed (List.append_nil S) (List.append_nil Fd) (List.append_nil Ds) rfl

theorem shape3_applyItem {c : Emf.Consts} {cfg : Config} {sw : Switches} (hc : CRel c cfg sw)
    (ops : FloatOps F) (txt : F → List Nat) {mult : Option Nat} (hm : multOk mult)
    {w : Emf.Writer} {S Fd : List Nat} {Ds : List Decl} {ad : List (AEntry F)} (h : Shape3 txt c w S Fd Ds ad)
    (it : Item F) (hw1 : (Emf.applyItem c mult w (toEmfItem ops txt it)).errors = []) :
    Shape3 txt c (Emf.applyItem c mult w (toEmfItem ops txt it)) (S ++ strBytes (strItems [it]))
      (Fd ++ fieldBytes txt (fieldsOf ops mult (routedTo cfg none (metricItems [it]))))
      (Ds ++ declsOf ops mult (routedTo cfg none (metricItems [it]))) (adStep cfg ops mult ad it) ∧
    Rest c w (Emf.applyItem c mult w (toEmfItem ops txt it)) [it] := by
  cases it with
  | timestamp t =>
    rw [toEmfItem, Emf.applyItem_timestamp]
    exact ⟨h.frame rfl (.inr rfl), rfl, rfl, rfl, (edAfter_noItems c _ _ rfl).symm⟩
  | allowSplit | otherCfg | allowUnroutable => exact ⟨h.frame rfl (.inr rfl), .of_frame rfl rfl rfl rfl⟩
  | entryDims sets =>
    have hemp : w.st.dimMap.isEmpty = ad.isEmpty := by rw [h.dm]; simp
    simp only [toEmfItem, Emf.applyItem, Emf.configEntryDims, hemp] at hw1 ⊢
    by_cases h1 : (!ad.isEmpty) = true
    · rw [if_pos h1] at hw1; exact absurd hw1 (err_errors_ne _ _)
    by_cases h2 : w.entryDims.isSome = true
    · rw [if_neg h1, if_pos h2] at hw1; exact absurd hw1 (err_errors_ne _ _)
    by_cases h3 : sets.isEmpty = true
    · rw [if_neg h1, if_neg h2, if_pos h3] at hw1; exact absurd hw1 (err_errors_ne _ _)
    rw [if_neg h1, if_neg h2, if_neg h3]
    have hed : w.entryDims = none := by simpa using h2
    have fr : Emf.Frame fun w => if (!c.validation.skipUnique || !c.validation.skipDimsExist) = true then
        sets.flatten.foldl (Emf.entryDimsValidate c) w else w := by
      split
      · exact .foldl (.entryDimsValidate c) _
      · exact .id
    exact ⟨h.frame (fr.st w) (.inl (by simpa using h1)), congrArg (·.declBuf) (fr.st w),
      congrArg (·.dimensionsBuf) (fr.st w), fr.timestamp w, by simp [edAfter, entryDimsItems, dimsOf, hed]⟩
  | value name v =>
    simp only [toEmfItem, Emf.applyItem, Emf.value] at hw1 ⊢
    rcases Emf.validateName_cases c name with ⟨k, hk⟩ | hvn
    · rw [hk] at hw1; exact absurd hw1 (err_errors_ne _ _)
    simp only [hvn] at hw1 ⊢
    cases v with
    | error => exact absurd hw1 (err_errors_ne _ _)
    | nothing => exact ⟨h.frame rfl (.inr rfl), .of_frame rfl rfl rfl rfl⟩
    | str s =>
      have hp : Shape3 txt c (Emf.pushStringField w name s) (S ++ strBytes [(name, s)]) (Fd ++ []) (Ds ++ []) ad :=
        ⟨h.dm, h.nd,
          by simp [Emf.pushStringField, h.sf, Emf.PBuf.push, Emf.PBuf.jsonString, Emf.PBuf.pushRaw, strBytes],
          by rw [List.append_nil]; exact h.f, by rw [List.append_nil]; exact h.m, h.c⟩
      obtain ⟨g, hg, e⟩ := valueString_frame c name s
      simp only [toEmfVal, e]
      exact ⟨hp.congr (hg.st _) (.inr (hg.entryDims _)) rfl rfl rfl rfl,
        .of_frame (congrArg (·.declBuf) (hg.st _)) (congrArg (·.dimensionsBuf) (hg.st _)) (hg.timestamp _) (hg.entryDims _)⟩
    | metric m =>
      simp only [toEmfVal, Emf.valueMetric, Emf.valueMetricCore, hc.ai]
      cases hg : (cfg.allowIgnored || m.dims.isEmpty) with
      | true =>
        have hro : routeOf cfg m = none := by simp [routeOf, hg]
        have fr := (Emf.Frame.metricPreCheck c m.dims).comp (Emf.Frame.metricCheck c name 0)
        simp only [if_true, Emf.metricGlobalWrite]
        rw [fr.st w, h.f, h.m, h.c, writeMetric_eq ops txt hm]
        refine ⟨⟨?_, ?_, ?_, ?_, ?_, rfl⟩, .of_frame rfl rfl (fr.timestamp w) (fr.entryDims w)⟩
        · simp only [fr.entryDims w, adStep, hro]; exact h.dm
        · simp only [adStep, hro]; exact h.nd
        · exact h.sf.trans (congrArg (Emf.PBuf.mk 0) (List.append_nil S).symm)
        · simp [metricItems, routedTo, hro]
        · simp [metricItems, routedTo, hro]
      | false =>
        have hro : routeOf cfg m = some (sortKey m.dims) := by simp [routeOf, hg]
        have fp := Emf.Frame.metricPreCheck c m.dims
        have fr := fun i => fp.comp (Emf.Frame.metricCheck c name i)
        have hsw := split_write ops txt hm c (w.entryDims.getD c.eachDims) ad h.nd (sortKey m.dims) name m
        simp only [Bool.false_eq_true, if_false, dimKeyOf_eq_sortKey, Emf.metricSplitWrite, Emf.dimEntryFor]
        simp only at hsw
        rw [(fr _).st w, fp.st w, fp.entryDims w, h.c, h.dm]
        refine ⟨⟨?_, ?_, ?_, ?_, ?_, hsw.2⟩, .of_frame rfl rfl ((fr _).timestamp w) ((fr _).entryDims w)⟩
        · simp only [(fr _).entryDims w, adStep, hro]; exact hsw.1
        · simp only [adStep, hro]; exact adAdd_keys_nodup ops mult ad _ name m h.nd
        · exact h.sf.trans (congrArg (Emf.PBuf.mk 0) (List.append_nil S).symm)
        · simpa [metricItems, routedTo, hro, fieldsOf, fieldBytes] using h.f
        · simpa [metricItems, routedTo, hro, declsOf] using h.m

theorem routedTo_append (cfg : Config) (r : Option Key) (a b : List (Str × Metric F)) :
    routedTo cfg r (a ++ b) = routedTo cfg r a ++ routedTo cfg r b := by
  simp [routedTo]

theorem shape3_foldl {c : Emf.Consts} {cfg : Config} {sw : Switches} (hc : CRel c cfg sw)
    (ops : FloatOps F) (txt : F → List Nat) {mult : Option Nat} (hm : multOk mult) (e : Entry F)
    {w : Emf.Writer} {st : VState} (hsim : Sim w st)
    {S Fd : List Nat} {Ds : List Decl} {ad : List (AEntry F)} (hS : Shape3 txt c w S Fd Ds ad)
    (herr : (run cfg sw st e).errs = []) :
    Shape3 txt c ((toEmfEntry ops txt e).foldl (Emf.applyItem c mult) w) (S ++ strBytes (strItems e))
      (Fd ++ fieldBytes txt (fieldsOf ops mult (routedTo cfg none (metricItems e))))
      (Ds ++ declsOf ops mult (routedTo cfg none (metricItems e))) (e.foldl (adStep cfg ops mult) ad) ∧
    Rest c w ((toEmfEntry ops txt e).foldl (Emf.applyItem c mult) w) e := by
  induction e generalizing w st S Fd Ds ad with
  | nil =>
    exact ⟨hS.frame rfl (.inr rfl), .of_frame rfl rfl rfl rfl⟩
  | cons it e ih =>
    have sim1 := sim_applyItem hc ops txt mult hsim it
    rw [run_cons] at herr
    have hst1 : (stepItem cfg sw st it).errs = [] := errs_nil_of_run cfg sw _ e herr
    have hw1 : (Emf.applyItem c mult w (toEmfItem ops txt it)).errors = [] := by
      rw [sim1.v.errs, hst1]; rfl
    obtain ⟨s1, r1⟩ := shape3_applyItem hc ops txt hm hS it hw1
    obtain ⟨s2, r2⟩ := ih sim1 s1 herr
    simp only [toEmfEntry, List.map_cons, List.foldl_cons] at s2 r2 ⊢
    refine ⟨?_, ⟨r2.decl.trans r1.decl, r2.dbuf.trans r1.dbuf, ?_, ?_⟩⟩
    · rw [strItems_cons, metricItems_cons, routedTo_append, fieldsOf_append, declsOf_append, fieldBytes_append,
        strBytes_append]
      exact s2.congr rfl (.inr rfl) (List.append_assoc ..).symm (List.append_assoc ..).symm (List.append_assoc ..).symm rfl
    · rw [r2.ts, r1.ts, tsAfter_cons]
    · rw [r2.ed, r1.ed, edAfter_cons]

theorem new_clear (x : List Nat) : (Emf.PBuf.new x).clear = Emf.PBuf.new x := by
  simp [Emf.PBuf.new, Emf.PBuf.clear]

/-- the bytes of one record: a directive for every namespace, each with the dimension sets `D` and the
declarations `M`; the extra directives `X`; log group and timestamp `ts`; the members `Fd` -/
def recLine (c : Emf.Consts) (D M X ts Fd : List Nat) : List Nat :=
  let T := Emf.dimensionsAfterNs ++ (D ++ (Emf.metricsPrefix ++ (M ++ bytes! "]}")))
  Emf.awsOpen ++ (c.ns0 ++ (T ++ ((c.moreNs.map fun ns => Emf.nsOpen ++ (ns ++ T)).flatten ++ (X ++ (c.logGroupTs ++
    (ts ++ 125 :: (Fd ++ bytes! "}\n")))))))

/-- the line of the split record of an abstract entry; `S` = the string members -/
def splitLine (txt : F → List Nat) (c : Emf.Consts) (ed : List (List Nat)) (ts S : List Nat) (t : Tri F) : List Nat :=
  recLine c (sepBy [44] (ed.map fun d => Emf.extendWithStrings d (t.1.map (·.1)))) (printElems (t.2.2.map declJson))
    [] ts (strBytes t.1 ++ (fieldBytes txt t.2.1 ++ S))

theorem conc_isEmpty (txt : F → List Nat) (c : Emf.Consts) (ed : List (List Nat)) (a : AEntry F) :
    (conc txt c ed a).fieldsBuf.isEmpty = a.fields.isEmpty := by
  cases h : a.fields <;> simp [conc, Emf.PBuf.isEmpty, fieldBytes, h]

theorem entryLine_conc (txt : F → List Nat) (c : Emf.Consts) (ed : List (List Nat)) (ts S : List Nat) (a : AEntry F) :
    Emf.entryLine c ts (S ++ bytes! "}\n") (conc txt c ed a) =
      if a.fields.isEmpty then none else some (splitLine txt c ed ts S (tri a)) := by
  have hm := Emf.finishEntryMetrics_buf c ts (conc txt c ed a) (Emf.awsOpen ++ c.ns0)
    (Emf.dimensionsAfterNs ++ (sepBy [44] (ed.map fun d => Emf.extendWithStrings d (a.key.map (·.1))) ++
      (Emf.metricsPrefix ++ printElems (a.decls.map declJson))))
    (by simp [conc, dimMetricsPrefix, List.append_assoc]) rfl
  simp only [Emf.entryLine, conc_isEmpty, hm]
  simp [splitLine, tri, recLine, conc, Emf.dimFieldsPrefix, strBytes, List.append_assoc]

/-- the split records of the writer's map are the lines of the abstract entries that have a metric member -/
theorem splitLines_conc (txt : F → List Nat) (c : Emf.Consts) (ed : List (List Nat)) (ts S : List Nat)
    (ad : List (AEntry F)) :
    (ad.map (conc txt c ed)).filterMap (Emf.entryLine c ts (S ++ bytes! "}\n")) =
      ((ad.map tri).filter fun t => !t.2.1.isEmpty).map (splitLine txt c ed ts S) := by
  induction ad with
  | nil => rfl
  | cons a rest ih =>
    simp only [List.map_cons, List.filterMap_cons, entryLine_conc, List.filter_cons, ih, show (tri a).2.1 = a.fields from rfl]
    cases a.fields.isEmpty <;> rfl

theorem finishGlobal_recLine (ecfg : Emf.Config) (st : Emf.State) (dims : List (List Nat)) (ts X : List Nat)
    {S Fd : List Nat} {Ds : List Decl}
    (hm : st.metricsBuf = ⟨Emf.metricsPrefix.length, Emf.metricsPrefix ++ printElems (Ds.map declJson)⟩)
    (hf : st.fieldsBuf = ⟨1, 125 :: Fd⟩)
    (hsf : st.stringFieldsBuf.buf = S ++ bytes! "}\n")
    (hdecl : st.declBuf.buf = X ++ ((Emf.Consts.ofConfig ecfg).logGroupTs ++ ts))
    (hdb : st.dimensionsBuf = Emf.PBuf.new (Emf.dimensionsPrefix ecfg)) :
    (Emf.finishGlobal (Emf.Consts.ofConfig ecfg) st dims ⟨none, [], false⟩).2.2.bytes =
      recLine (Emf.Consts.ofConfig ecfg) (sepBy [44] dims) (printElems (Ds.map declJson)) X ts (Fd ++ S) := by
  rw [Emf.finishGlobal_line _ st dims (Emf.awsOpen ++ jstr ecfg.ns0) (Emf.dimensionsAfterNs ++ sepBy [44] dims)
    (by rw [hdb, new_clear, Emf.pushDimensions_eq]; simp [Emf.PBuf.new, Emf.dimensionsPrefix, List.append_assoc])
    (Emf.afterNsIndex_eq ecfg), hm, hf, hsf, hdecl]
  simp [recLine, Emf.Consts.ofConfig, List.append_assoc]

/-- `finish` with a writer that never fails: the split records in map order, then the no-dimension record
unless a split record was written and it has no metric member -/
theorem finish_split (txt : F → List Nat) (ecfg : Emf.Config) (w : Emf.Writer) (nowMs : Nat)
    {S Fd : List Nat} {Ds : List Decl} {ad : List (AEntry F)}
    (hS : Shape3 txt (Emf.Consts.ofConfig ecfg) w S Fd Ds ad)
    (hdecl : w.st.declBuf = Emf.PBuf.new (Emf.extraDirectivesStr ecfg.extraDirectives))
    (hdb : w.st.dimensionsBuf = Emf.PBuf.new (Emf.dimensionsPrefix ecfg))
    (herr : Emf.finishErrors (Emf.Consts.ofConfig ecfg) w = []) :
    (Emf.finish (Emf.Consts.ofConfig ecfg) w nowMs ⟨none, [], false⟩).2 =
      (.ok, ⟨none,
        (((ad.map tri).filter fun t => !t.2.1.isEmpty).map
            (splitLine txt (Emf.Consts.ofConfig ecfg) (w.entryDims.getD (Emf.Consts.ofConfig ecfg).eachDims)
              (natDigits (Emf.timestampMillis w.timestamp nowMs)) S)).flatten ++
          (if (((ad.map tri).filter fun t => !t.2.1.isEmpty).isEmpty || !Fd.isEmpty) = true then
            recLine (Emf.Consts.ofConfig ecfg) (sepBy [44] (w.entryDims.getD (Emf.Consts.ofConfig ecfg).eachDims))
              (printElems (Ds.map declJson)) (Emf.extraDirectivesStr ecfg.extraDirectives)
              (natDigits (Emf.timestampMillis w.timestamp nowMs)) (Fd ++ S)
           else []), false⟩) := by
  unfold Emf.finish
  simp only [herr, List.isEmpty_nil, Bool.not_true, Bool.false_eq_true, if_false]
  have hfe : w.st.fieldsBuf.isEmpty = Fd.isEmpty := by
    rw [hS.f]; cases Fd <;> simp [Emf.PBuf.isEmpty]
  rw [Emf.finishWrite_recordLines]
  unfold Emf.recordLines
  simp only [hS.dm, show w.st.stringFieldsBuf.buf = S by rw [hS.sf], splitLines_conc, List.isEmpty_map, hfe]
  split
  · simp only [List.flatten_append, List.flatten_cons, List.flatten_nil, List.append_nil]
    congr 3
    exact finishGlobal_recLine ecfg _ _ _ _ hS.m hS.f (by rw [hS.sf]; rfl)
      (by simp [hdecl, Emf.PBuf.new, Emf.PBuf.pushRaw]) hdb
  · simp

end EmfRefine
