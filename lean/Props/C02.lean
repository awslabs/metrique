import Props.C14
import Props.C02e
/-!
# C02 — EMF output is always complete, newline-framed, valid JSON records

Model: `Model/Emf.lean` (operational transcription of `emf.rs`, byte for byte), recogniser and
escaping: `Model/Json.lean`, fragment calculus: `Props/C02Json.lean`.
-/
namespace Emf
open Json

theorem finishGlobal_not_validation (c : Consts) (s : State) (dims : List Bytes) (out : Out) :
    ∀ errs, (finishGlobal c s dims out).2.1 ≠ .validation errs := by
  intro errs
  unfold finishGlobal
  simp only
  split <;> simp

theorem finishWrite_not_validation (c : Consts) (s : State) (dims : List Bytes) (ts : Bytes) (out : Out) :
    ∀ errs, (finishWrite c s dims ts out).2.1 ≠ .validation errs := by
  intro errs
  unfold finishWrite
  simp only
  generalize finishDims c ts (s.stringFieldsBuf.pushRaw (bytes! "}\n")).buf s.dimMap out false = r
  obtain ⟨dm, o, any⟩ := r
  dsimp only
  cases o.failed with
  | true => nofun
  | false =>
    cases (!any || !s.fieldsBuf.isEmpty) with
    | true => exact finishGlobal_not_validation c _ dims o errs
    | false => nofun

/-- **C02: a validation error writes nothing.** Whatever the state, the entry, the multiplicity and
the writer: when the call reports a validation error, not a single byte was handed to the writer. -/
theorem c02_error_writes_nothing (c : Consts) (s : State) (call : Call) (errs : List ErrKind)
    (h : (format c s call).2.1 = .validation errs) : (format c s call).2.2.bytes = [] := by
  unfold format at h ⊢
  split
  · rfl
  · rename_i hb
    simp only [hb, Bool.false_eq_true, ↓reduceIte] at h
    unfold formatWithMultiplicity finish at h ⊢
    simp only at h ⊢
    split
    · rfl
    · rename_i hne
      simp only [hne] at h
      exact absurd h (finishWrite_not_validation c _ _ _ _ errs)

/-- **C02: `rate <= 0` or NaN writes nothing** (and is reported as a validation error, and leaves the
formatter untouched). -/
theorem c02_rate_invalid_writes_nothing (c : Consts) (s : State) (call : Call) (h : call.badRate = true) :
    (format c s call).2.1 = .validation [.badRate] ∧ (format c s call).2.2.bytes = [] ∧
    (format c s call).1 = s := by
  simp [format, h]

/-- **C02 escape lemma.** For every byte string `s`, `json_string(s)` (= `serde_json::to_string`)
is one complete JSON string token — usable as a value and as an object key — and contains no raw
newline. -/
theorem c02_escape (s : Bytes) : IsVal (jstr s) ∧ IsKey (jstr s) ∧ 10 ∉ jstr s := by
  refine ⟨IsVal.jstr s, IsKey.jstr s, ?_⟩
  obtain ⟨m', hr, -⟩ := IsVal.jstr s [] .val (Or.inl rfl)
  exact run_compact_no_nl hr

/-- what C02 says about one record line: it is a body followed by exactly one newline; the body has
the EMF shape (an object whose first member `_aws` is an object holding `CloudWatchMetrics`, an array
of directive objects each with `Namespace`, `Dimensions`, `Metrics`, and an integer `Timestamp`);
the body is compact JSON, the whole line is accepted by the strict recogniser, and the body
contains no raw newline. -/
def ValidRecordLine (l : Bytes) : Prop :=
  ∃ body, l = body ++ [10] ∧ AwsShape body ∧ acceptsCompact body = true ∧ accepts l = true ∧ 10 ∉ body

theorem validRecordLine_of_shape {l body : Bytes} (hl : l = body ++ [10]) (h : AwsShape body) :
    ValidRecordLine l := by
  have hc := h.isVal.acceptsCompact
  obtain ⟨ha, hn⟩ := acceptsCompact_line hc
  exact ⟨body, hl, h, hc, hl ▸ ha, hn⟩

theorem lines_valid_unlimited (cfg : Config) {s : State} (hs : s.WF cfg) (call : Call)
    (hfmt : call.fmtOk = true) (hio : call.ioBudget = none)
    (hok : (format (Consts.ofConfig cfg) s call).2.1 = .ok) :
    ∃ lines, lines ≠ [] ∧ (format (Consts.ofConfig cfg) s call).2.2.bytes = lines.flatten ∧
      ∀ l ∈ lines, ValidRecordLine l := by
  rw [format_of_wf _ hs call] at hok ⊢
  unfold format at hok ⊢
  cases hb : call.badRate with
  | true => simp [hb] at hok
  | false =>
    simp only [hb, Bool.false_eq_true, ↓reduceIte] at hok ⊢
    unfold formatWithMultiplicity at hok ⊢
    have hitems : ∀ it ∈ call.items, it.fmtOk = true := by
      simpa [Call.fmtOk, List.all_eq_true] using hfmt
    have hinv := foldl_applyItem_inv call.mult call.items hitems (WInv.start cfg)
    rw [hio] at hok ⊢
    have herr := finish_ok_errors _ _ _ _ hok
    obtain ⟨lines, hne, heq, hl⟩ := finish_spec cfg hinv call.nowMs herr
    refine ⟨lines, hne, by rw [heq], ?_⟩
    intro l hlm
    obtain ⟨body, hb, hshape⟩ := hl l hlm
    exact validRecordLine_of_shape hb hshape

/-- **C02, main theorem.** For every configuration, every formatter state reachable by any history
of calls, every entry (any sequence of writer calls: any names and strings, any observation lists
with NaN / infinities / zero-occurrence / empty distributions in any position, any units,
dimensions, flags, entry configuration), every sampling multiplicity or none, every writer (with
any byte budget), provided every float text is a JSON number (`fmtOk`, the `dtoa` law, checked at
run time): if the call reports success then the bytes written are one or more complete lines, each
of which is a valid record line (`ValidRecordLine`). -/
theorem c02_lines_valid (cfg : Config) {s : State} (hs : Reachable cfg s) (call : Call)
    (hfmt : call.fmtOk = true) (hok : (format (Consts.ofConfig cfg) s call).2.1 = .ok) :
    ∃ lines, lines ≠ [] ∧ (format (Consts.ofConfig cfg) s call).2.2.bytes = lines.flatten ∧
      ∀ l ∈ lines, ValidRecordLine l := by
  obtain ⟨hok', hbytes⟩ := format_ok_unlimited _ s call hok
  rw [hbytes]
  exact lines_valid_unlimited cfg hs.wf { call with ioBudget := none } hfmt rfl hok'

/-- **C02, JSON corollary** (the statement in the words of the property): on success every emitted
line is accepted by the strict JSON recogniser and ends with its only raw newline. -/
theorem c02_lines_parse (cfg : Config) {s : State} (hs : Reachable cfg s) (call : Call)
    (hfmt : call.fmtOk = true) (hok : (format (Consts.ofConfig cfg) s call).2.1 = .ok) :
    ∃ lines, lines ≠ [] ∧ (format (Consts.ofConfig cfg) s call).2.2.bytes = lines.flatten ∧
      ∀ l ∈ lines, accepts l = true ∧ ∃ body, l = body ++ [10] ∧ 10 ∉ body := by
  obtain ⟨lines, hne, heq, hl⟩ := c02_lines_valid cfg hs call hfmt hok
  refine ⟨lines, hne, heq, fun l hlm => ?_⟩
  obtain ⟨body, hb, -, -, ha, hn⟩ := hl l hlm
  exact ⟨ha, body, hb, hn⟩

/-- the `Timestamp` of a record is an integer: `itoa` prints digits only -/
theorem c02_timestamp_integer (ts : Nat) : ∀ x ∈ natDigits ts, isDigit x = true := natDigits_all_digits ts

/-! ### Non-vacuity: `exSplit` (one string needing an escape, a 4-observation distribution with NaN first
and last, one split metric, two namespaces, sampled with multiplicity 2) meets the hypotheses of
`lines_valid_unlimited` and is accepted (evaluated by the kernel). A distribution ending in NaN is the
regression witness of the repaired defect (`"Values":[1,]`). -/

example :
    exSplit.fmtOk = true ∧ exSplit.ioBudget = none ∧
    (format (Consts.ofConfig exCfg) (State.fresh exCfg) exSplit).2.1 = .ok := by
  decide +kernel

/-- a distribution whose last observation is NaN: `{"Values":[1],"Counts":[1]}`, no trailing comma -/
example :
    (format (Consts.ofConfig exCfg) (State.fresh exCfg)
      { items := [.timestamp 0, .value (bytes! "Op") (.str []),
          .value (bytes! "M") (.metric [.unsigned 1, .floating none] none [] .none)],
        mult := none, badRate := false, nowMs := 0, ioBudget := none }).2.2.bytes =
    bytes! "{\"_aws\":{\"CloudWatchMetrics\":[{\"Namespace\":\"Ns\",\"Dimensions\":[[\"Op\"]],\"Metrics\":[{\"Name\":\"M\"}]},{\"Namespace\":\"N2\",\"Dimensions\":[[\"Op\"]],\"Metrics\":[{\"Name\":\"M\"}]}],\"Timestamp\":0},\"M\":{\"Values\":[1],\"Counts\":[1]},\"Op\":\"\"}\n" := by
  decide +kernel

end Emf

#print axioms Emf.c02_error_writes_nothing
#print axioms Emf.c02_rate_invalid_writes_nothing
#print axioms Emf.c02_escape
#print axioms Emf.c02_lines_valid
#print axioms Emf.c02_lines_parse
#print axioms Emf.c02_timestamp_integer
