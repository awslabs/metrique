import Model.Naming
import Generated.Naming
/-!
# C07 — `#[metrics]` emits the documented names, values and units for every type shape
-/
namespace Naming

theorem blen_append (a b : Str) : blen (a ++ b) = blen a + blen b := by
  simp [blen, List.map_append, List.sum_append]

theorem CStr.len_eq (t : CStr) : t.len = blen t.denote := by
  induction t with
  | leaf s => rfl
  | cat a b iha ihb =>
    show a.len + b.len = blen (a.denote ++ b.denote)
    rw [blen_append, iha, ihb]

theorem CStr.maybeVal_of_haveVal {hl ml : Nat} (h : hl ≤ ml) (t : CStr) (hv : t.haveVal hl = true) :
    t.maybeVal ml = t.denote := by
  induction t with
  | leaf s => rfl
  | cat a b iha ihb =>
    have hv : (a.haveVal hl && b.haveVal hl && decide (a.len + b.len ≤ hl)) = true := hv
    simp only [Bool.and_eq_true, decide_eq_true_eq] at hv
    show (if blen (a.maybeVal ml) + blen (b.maybeVal ml) ≤ ml then a.maybeVal ml ++ b.maybeVal ml else []) = _
    rw [iha hv.1.1, ihb hv.1.2, ← CStr.len_eq, ← CStr.len_eq, if_pos (Nat.le_trans hv.2 h)]
    rfl

/-- `const_str_value::<S>()` is the concatenation `S` denotes, for every tree of `Concatenated`s
and every pair of limits with `HAVE_VAL`'s bound not above the last arm of the `MAYBE_VAL` match:
the borrowed (static) and the owned (heap, beyond the limit) path agree. -/
theorem c07_const_str_value (l : Limits) (h : l.have_ ≤ l.match_) (t : CStr) :
    constStrValue l t = t.denote := by
  unfold constStrValue
  split
  · exact CStr.maybeVal_of_haveVal h t ‹_›
  · rfl

theorem select_makeInflectBase (f : Style → Str) (s : Style) : (makeInflectBase f).select s = f s := by
  cases s <;> rfl

theorem makeNs_style (ra : Style) (ns : NS) : (makeNs ra ns).style = effStyle ns.style ra := by
  cases ra <;> rfl

theorem makeNs_pfx (ra : Style) (ns : NS) : (makeNs ra ns).pfx = ns.pfx := by
  cases ra <;> rfl

theorem metricName_eq (infl : Infl) (a : Attrs) (st : Style) (ident : Str) (ov : Option Str) (chain : Str) :
    chain ++ metricName infl a st ident ov = specName infl st chain a ident ov := by
  unfold metricName specName
  cases ov with
  | some n => rfl
  | none =>
    cases h : a.pfx with
    | none => rfl
    | some p => cases p <;> rfl

theorem fieldNameX_eq (c : Cfg) (hl : c.limits.have_ ≤ c.limits.match_) (a : Attrs) (ns : NS)
    (ident : Str) (ov : Option Str) :
    fieldNameX c a ns ident ov
      = specName c.infl (effStyle ns.style a.renameAll) ns.pfx.denote a ident ov := by
  unfold fieldNameX
  rw [c07_const_str_value _ hl]
  simp only [NS.inflect, CStr.denote, select_makeInflectBase, makeNs_style, makeNs_pfx, metricName_eq]

theorem tagNameX_eq (c : Cfg) (hl : c.limits.have_ ≤ c.limits.match_) (a : Attrs) (ns : NS) (t : Tag) :
    tagNameX c a ns t = specTagName c.infl (effStyle ns.style a.renameAll) ns.pfx.denote a t := by
  cases t with
  | infl name sg => exact fieldNameX_eq c hl a ns name none
  | exact name sg =>
    unfold tagNameX
    rw [c07_const_str_value _ hl]
    simp only [NS.inflect, CStr.denote, select_makeInflectBase, makeNs_pfx]
    rfl

theorem flattenNs_style (c : Cfg) (a : Attrs) (ns : NS) (p : Option Pfx) :
    (flattenNs c a ns p).style = effStyle ns.style a.renameAll := by
  unfold flattenNs
  cases p with
  | none => exact makeNs_style _ _
  | some p => cases p <;> simp [Pfx.appendTo, NS.appendPrefix, makeNs_style]

theorem flattenNs_pfx (c : Cfg) (a : Attrs) (ns : NS) (p : Option Pfx) :
    (flattenNs c a ns p).pfx.denote
      = specChain c.infl (effStyle ns.style a.renameAll) ns.pfx.denote p := by
  unfold flattenNs
  cases p with
  | none => simp [makeNs_pfx, specChain]
  | some p =>
    cases p <;>
      simp [Pfx.appendTo, NS.appendPrefix, NS.inflectAffix, CStr.denote, select_makeInflectBase,
        makeNs_pfx, makeNs_style, specChain]

theorem tagWriteX_eq (c : Cfg) (hl : c.limits.have_ ≤ c.limits.match_) (a : Attrs) (ns : NS)
    (tag : Option Tag) (vi : Str) (vn : Option Str) :
    tagWriteX c a ns tag vi vn =
      (match tag with
        | none => []
        | some t => [(specTagName c.infl (effStyle ns.style a.renameAll) ns.pfx.denote a t,
                      (⟨.string, variantString c.infl a.renameAll vi vn, []⟩ : Obs))]) := by
  cases tag with
  | none => rfl
  | some t => simp [tagWriteX, tagNameX_eq c hl]

/-- On the fields `parse_variant_data` admits in a tuple variant (flatten, flatten_entry, ignore)
`generate_tuple_writes` and `collect_tuple_sample_group` do what `generate_field_writes` and
`collect_field_sample_group` do. -/
theorem tupleField_eq (c : Cfg) (a : Attrs) (ns : NS) (f : Field) (h : wfField true f = true) :
    wfField false f = true ∧ expandTupleField c a ns f = expandField c a ns f ∧
      sgTupleField c a ns f = sgField c a ns f := by
  cases f <;> first | exact ⟨h, rfl, rfl⟩ | exact ⟨rfl, rfl, rfl⟩ | cases h

section
set_option linter.unusedSectionVars false
variable (c : Cfg) (hl : c.limits.have_ ≤ c.limits.match_) (hf : c.forwards)
include hl hf

mutual
theorem expandDef_eq (ns : NS) : (d : Def) → wfDef d = true →
    expandDef c ns d = specDef c.infl ns.style ns.pfx.denote d
  | .wrap w d, h => by
    show expandDef c (c.wrapNs w ns) d = _
    rw [hf.1 w ns]
    exact expandDef_eq ns d h
  | .struct a fs, h => expandFields_eq a ns fs h
  | .enum a tag vi vn tuple fs, h => by
    show tagWriteX c a ns tag vi vn ++ _ = _
    rw [tagWriteX_eq c hl]
    refine congrArg _ ?_
    cases tuple with
    | false => exact expandFields_eq a ns fs h
    | true => exact expandTupleFields_eq a ns fs h
theorem expandFields_eq (a : Attrs) (ns : NS) : (fs : Fields) → wfFields false fs = true →
    expandFields c a ns fs = specFields c.infl (effStyle ns.style a.renameAll) ns.pfx.denote a fs
  | .nil, _ => rfl
  | .cons f fs, h => by
    have h : wfField false f = true ∧ wfFields false fs = true := Bool.and_eq_true_iff.mp h
    show expandField c a ns f ++ expandFields c a ns fs = _
    rw [expandField_eq a ns f h.1, expandFields_eq a ns fs h.2]
    rfl
theorem expandField_eq (a : Attrs) (ns : NS) : (f : Field) → wfField false f = true →
    expandField c a ns f = specField c.infl (effStyle ns.style a.renameAll) ns.pfx.denote a f
  | .plain ident ov unit sg v, _ => by
    show (match fieldObs c.infl unit v with | none => [] | some o => [(fieldNameX c a ns ident ov, o)]) = _
    rw [fieldNameX_eq c hl]
    rfl
  | .ignore, _ => rfl
  | .timestamp, _ => rfl
  | .flatten p present child, h => by
    cases present with
    | false => rfl
    | true =>
      show expandDef c (flattenNs c a ns p) child = _
      rw [expandDef_eq (flattenNs c a ns p) child h, flattenNs_style, flattenNs_pfx]
      rfl
  | .flattenEntry items sg, _ => rfl
theorem expandTupleFields_eq (a : Attrs) (ns : NS) : (fs : Fields) → wfFields true fs = true →
    expandTupleFields c a ns fs = specFields c.infl (effStyle ns.style a.renameAll) ns.pfx.denote a fs
  | .nil, _ => rfl
  | .cons f fs, h => by
    have h : wfField true f = true ∧ wfFields true fs = true := Bool.and_eq_true_iff.mp h
    have ⟨k, e, _⟩ := tupleField_eq c a ns f h.1
    show expandTupleField c a ns f ++ expandTupleFields c a ns fs = _
    rw [e, expandField_eq a ns f k, expandTupleFields_eq a ns fs h.2]
    rfl
end

theorem expandTupleField_eq (a : Attrs) (ns : NS) : (f : Field) → wfField true f = true →
    expandTupleField c a ns f = specField c.infl (effStyle ns.style a.renameAll) ns.pfx.denote a f
  | f, h =>
    have ⟨k, e, _⟩ := tupleField_eq c a ns f h
    e.trans (expandField_eq c hl hf a ns f k)

end

theorem tagSgX_eq (c : Cfg) (hl : c.limits.have_ ≤ c.limits.match_) (a : Attrs) (ns : NS)
    (tag : Option Tag) (vi : Str) (vn : Option Str) :
    tagSgX c a ns tag vi vn =
      (match tag with
        | none => []
        | some t =>
          if t.sampleGroup then
            [(specTagName c.infl (effStyle ns.style a.renameAll) ns.pfx.denote a t,
              variantString c.infl a.renameAll vi vn)]
          else []) := by
  cases tag with
  | none => rfl
  | some t => simp [tagSgX, tagNameX_eq c hl]

section
set_option linter.unusedSectionVars false
variable (c : Cfg) (hl : c.limits.have_ ≤ c.limits.match_) (hf : c.forwards)
include hl hf

mutual
theorem sgDef_eq (ns : NS) : (d : Def) → wfDef d = true →
    sgDef c ns d = specSgDef c.infl ns.style ns.pfx.denote (eraseDef d)
  | .wrap w d, h => by
    show (if c.wrapSg w then sgDef c (c.wrapNs w ns) d else []) = _
    rw [hf.1 w ns, hf.2 w, if_pos rfl]
    exact sgDef_eq ns d h
  | .struct a fs, h => sgFields_eq a ns fs h
  | .enum a tag vi vn tuple fs, h => by
    show tagSgX c a ns tag vi vn ++ _ = _
    rw [tagSgX_eq c hl]
    refine congrArg _ ?_
    cases tuple with
    | false => exact sgFields_eq a ns fs h
    | true => exact sgTupleFields_eq a ns fs h
theorem sgFields_eq (a : Attrs) (ns : NS) : (fs : Fields) → wfFields false fs = true →
    sgFields c a ns fs
      = specSgFields c.infl (effStyle ns.style a.renameAll) ns.pfx.denote a (eraseFields fs)
  | .nil, _ => rfl
  | .cons f fs, h => by
    have h : wfField false f = true ∧ wfFields false fs = true := Bool.and_eq_true_iff.mp h
    show sgField c a ns f ++ sgFields c a ns fs = _
    rw [sgField_eq a ns f h.1, sgFields_eq a ns fs h.2]
    rfl
theorem sgField_eq (a : Attrs) (ns : NS) : (f : Field) → wfField false f = true →
    sgField c a ns f
      = specSgField c.infl (effStyle ns.style a.renameAll) ns.pfx.denote a (eraseField f)
  | .plain ident ov unit sg v, _ => by
    show (if sg then [(fieldNameX c a ns ident ov, sampleValue c.infl v)] else []) = _
    rw [fieldNameX_eq c hl]
    rfl
  | .ignore, _ => rfl
  | .timestamp, _ => rfl
  | .flatten p present child, h => by
    cases present with
    | false => rfl
    | true =>
      show sgDef c (makeNs a.renameAll ns) child = _
      rw [sgDef_eq (makeNs a.renameAll ns) child h, makeNs_style, makeNs_pfx]
      rfl
  | .flattenEntry items sg, _ => rfl
theorem sgTupleFields_eq (a : Attrs) (ns : NS) : (fs : Fields) → wfFields true fs = true →
    sgTupleFields c a ns fs
      = specSgFields c.infl (effStyle ns.style a.renameAll) ns.pfx.denote a (eraseFields fs)
  | .nil, _ => rfl
  | .cons f fs, h => by
    have h : wfField true f = true ∧ wfFields true fs = true := Bool.and_eq_true_iff.mp h
    have ⟨k, _, e⟩ := tupleField_eq c a ns f h.1
    show sgTupleField c a ns f ++ sgTupleFields c a ns fs = _
    rw [e, sgField_eq a ns f k, sgTupleFields_eq a ns fs h.2]
    rfl
end

theorem sgTupleField_eq (a : Attrs) (ns : NS) : (f : Field) → wfField true f = true →
    sgTupleField c a ns f
      = specSgField c.infl (effStyle ns.style a.renameAll) ns.pfx.denote a (eraseField f)
  | f, h =>
    have ⟨k, _, e⟩ := tupleField_eq c a ns f h
    e.trans (sgField_eq c hl hf a ns f k)

end

/- A definition that reports no sample-group pair of its own reports the same pairs (those of its
`flatten_entry` fields) under every prefix chain. -/
mutual
theorem specSgDef_chain_irrel (infl : Infl) (st : Style) (ch ch' : Str) : (d : Def) → hasSgDef d = false →
    specSgDef infl st ch d = specSgDef infl st ch' d
  | .wrap _ d, h => specSgDef_chain_irrel infl st ch ch' d h
  | .struct a fs, h => specSgFields_chain_irrel infl _ ch ch' a fs h
  | .enum a tag vi vn tuple fs, h => by
    show _ ++ specSgFields infl _ ch a fs = _ ++ specSgFields infl _ ch' a fs
    cases tag with
    | none => exact congrArg _ (specSgFields_chain_irrel infl _ ch ch' a fs h)
    | some t =>
      have h : t.sampleGroup = false ∧ hasSgFields fs = false := Bool.or_eq_false_iff.mp h
      rw [specSgFields_chain_irrel infl _ ch ch' a fs h.2]
      simp only [h.1, Bool.false_eq_true, if_false]
theorem specSgFields_chain_irrel (infl : Infl) (st : Style) (ch ch' : Str) (a : Attrs) :
    (fs : Fields) → hasSgFields fs = false →
    specSgFields infl st ch a fs = specSgFields infl st ch' a fs
  | .nil, _ => rfl
  | .cons f fs, h => by
    have h : hasSgField f = false ∧ hasSgFields fs = false := Bool.or_eq_false_iff.mp h
    show specSgField infl st ch a f ++ specSgFields infl st ch a fs = _
    rw [specSgField_chain_irrel infl st ch ch' a f h.1, specSgFields_chain_irrel infl st ch ch' a fs h.2]
    rfl
theorem specSgField_chain_irrel (infl : Infl) (st : Style) (ch ch' : Str) (a : Attrs) :
    (f : Field) → hasSgField f = false →
    specSgField infl st ch a f = specSgField infl st ch' a f
  | .plain ident ov unit sg v, h => by
    cases (h : sg = false)
    rfl
  | .ignore, _ => rfl
  | .timestamp, _ => rfl
  | .flatten p present child, h => by
    cases present with
    | false => rfl
    | true => exact specSgDef_chain_irrel infl st _ _ child h
  | .flattenEntry items sg, _ => rfl
end

mutual
theorem specSgDef_erase (infl : Infl) (st : Style) (ch : Str) : (d : Def) → sgPrefixFree d = true →
    specSgDef infl st ch (eraseDef d) = specSgDef infl st ch d
  | .wrap _ d, h => specSgDef_erase infl st ch d h
  | .struct a fs, h => specSgFields_erase infl _ ch a fs h
  | .enum a _ _ _ _ fs, h => congrArg (_ ++ ·) (specSgFields_erase infl _ ch a fs h)
theorem specSgFields_erase (infl : Infl) (st : Style) (ch : Str) (a : Attrs) :
    (fs : Fields) → sgPrefixFreeFields fs = true →
    specSgFields infl st ch a (eraseFields fs) = specSgFields infl st ch a fs
  | .nil, _ => rfl
  | .cons f fs, h => by
    have h : sgPrefixFreeField f = true ∧ sgPrefixFreeFields fs = true := Bool.and_eq_true_iff.mp h
    show specSgField infl st ch a (eraseField f) ++ specSgFields infl st ch a (eraseFields fs) = _
    rw [specSgField_erase infl st ch a f h.1, specSgFields_erase infl st ch a fs h.2]
    rfl
theorem specSgField_erase (infl : Infl) (st : Style) (ch : Str) (a : Attrs) :
    (f : Field) → sgPrefixFreeField f = true →
    specSgField infl st ch a (eraseField f) = specSgField infl st ch a f
  | .plain .., _ => rfl
  | .ignore, _ => rfl
  | .timestamp, _ => rfl
  | .flattenEntry .., _ => rfl
  | .flatten p present child, h => by
    cases present with
    | false => rfl
    | true =>
      have h : (p.isNone || !hasSgDef child) = true ∧ sgPrefixFree child = true :=
        Bool.and_eq_true_iff.mp h
      show specSgDef infl st ch (eraseDef child) = specSgDef infl st (specChain infl st ch p) child
      rw [specSgDef_erase infl st ch child h.2]
      cases p with
      | none => rfl
      | some q => exact specSgDef_chain_irrel infl st _ _ child (by simpa using h.1)
end

/-- **C07 (items).** For every well-formed definition tree of any depth, every inherited name style
and every prefix chain (any tree of `Concatenated`s, in particular longer than the const-string
limit), what the generated `InflectableEntry::<NS>::write` emits — names resolved through the four
pre-inflected strings, `NameStyle`'s associated types and `const_str_value` — is exactly what the
documented naming function prescribes: same items, same order, same names, values, units, kinds. -/
theorem c07_expansion_eq_spec (c : Cfg) (hl : c.limits.have_ ≤ c.limits.match_) (hf : c.forwards)
    (ns : NS) (d : Def) (hwf : wfDef d = true) :
    expandDef c ns d = specDef c.infl ns.style ns.pfx.denote d :=
  expandDef_eq c hl hf ns d hwf

/-- The constants extracted from `concat.rs` on this run satisfy the side condition. -/
theorem c07_limits_consistent : Generated.Naming.haveValLimit ≤ Generated.Naming.matchLimit := by
  decide

/-- the configuration of the real code: the limits of `concat.rs`, any inflector -/
def realCfg (infl : Infl) : Cfg :=
  { infl := infl, limits := ⟨Generated.Naming.haveValLimit, Generated.Naming.matchLimit⟩ }

theorem realCfg_forwards (infl : Infl) : (realCfg infl).forwards := ⟨fun _ _ => rfl, fun _ => rfl⟩

/-- **C07 at the root**: a `RootEntry` (written with `Identity<EmptyConstStr>`) of any well-formed
definition emits the documented items, with the limits `concat.rs` has now. -/
theorem c07_root_entry_eq_spec (infl : Infl) (d : Def) (hwf : wfDef d = true) :
    expandDef (realCfg infl) NS.root d = specDef infl .preserve [] d :=
  expandDef_eq (realCfg infl) c07_limits_consistent (realCfg_forwards infl) NS.root d hwf

/-- **C07 (sample groups), what the code does, full strength**: the generated `sample_group()` of
every well-formed tree reports the documented pairs *of the tree with every flatten prefix erased*
(`collect_field_sample_group` never appends the flatten prefix). -/
theorem c07_sample_group_erases_flatten_prefix (c : Cfg) (hl : c.limits.have_ ≤ c.limits.match_)
    (hf : c.forwards) (ns : NS) (d : Def) (hwf : wfDef d = true) :
    sgDef c ns d = specSgDef c.infl ns.style ns.pfx.denote (eraseDef d) :=
  sgDef_eq c hl hf ns d hwf

/-- **C07 (sample groups), partial**: sample-group pairs use the same names as the written items
whenever no prefixed flatten has a child that reports a sample-group pair of its own (`hfree`).
Without `hfree` the statement is false for the code as it is (known finding
`naming:sample-group-misses-flatten-prefix`, witness below): under a
`#[metrics(flatten, prefix/exact_prefix)]` over a sample-group field/tag the code omits the flatten
prefix from the pair's name. -/
theorem c07_sample_group_eq_spec_partial (c : Cfg) (hl : c.limits.have_ ≤ c.limits.match_)
    (hf : c.forwards) (ns : NS) (d : Def) (hwf : wfDef d = true) (hfree : sgPrefixFree d = true) :
    sgDef c ns d = specSgDef c.infl ns.style ns.pfx.denote d := by
  rw [sgDef_eq c hl hf ns d hwf, specSgDef_erase c.infl ns.style ns.pfx.denote d hfree]

/-- **Forwarding impls are covered and forward.** The list of `impl InflectableEntry<NS> for
<container>` that T-gen finds in metrique-core now is exactly the list of `Wrapper`s the model (and
the generated crate) goes through; each bounds `T: InflectableEntry<NS>` and calls `T`'s `write`
and overrides `sample_group` (so `Cfg.forwards` is what the code says). A new or altered forwarding
impl re-opens this obligation. -/
theorem c07_forwarding_impls_covered :
    Generated.Naming.forwardingImpls
      = Wrapper.all.map fun w => (w.rustType, true, true) := by
  decide +kernel

theorem observe_isSome (infl : Infl) (v : FVal) : (observe infl v).isSome = v.isPresent := by
  induction v with
  | newtype inner u ih => exact Option.isSome_map.trans ih
  | some inner ih => exact ih
  | _ => rfl

theorem fieldObs_isSome (infl : Infl) (u : Option Str) (v : FVal) :
    (fieldObs infl u v).isSome = v.isPresent := by
  simp [fieldObs, observe_isSome]

mutual
theorem specDef_length (infl : Infl) (st : Style) (ch : Str) : (d : Def) →
    (specDef infl st ch d).length = countDef d
  | .wrap _ d => specDef_length infl st ch d
  | .struct a fs => specFields_length infl _ ch a fs
  | .enum a tag vi vn tuple fs => by
    show (_ ++ specFields infl _ ch a fs).length = _ + countFields fs
    rw [List.length_append, specFields_length infl _ ch a fs]
    cases tag <;> rfl
theorem specFields_length (infl : Infl) (st : Style) (ch : Str) (a : Attrs) : (fs : Fields) →
    (specFields infl st ch a fs).length = countFields fs
  | .nil => rfl
  | .cons f fs => by
    show (specField infl st ch a f ++ specFields infl st ch a fs).length = countField f + countFields fs
    rw [List.length_append, specField_length infl st ch a f, specFields_length infl st ch a fs]
theorem specField_length (infl : Infl) (st : Style) (ch : Str) (a : Attrs) : (f : Field) →
    (specField infl st ch a f).length = countField f
  | .plain ident ov unit sg v => by
    show (match fieldObs infl unit v with | none => [] | some o => [(specName infl st ch a ident ov, o)]).length
      = if v.isPresent then 1 else 0
    rw [← fieldObs_isSome infl unit v]
    cases fieldObs infl unit v <;> rfl
  | .ignore => rfl
  | .timestamp => rfl
  | .flatten p present child => by
    cases present with
    | false => rfl
    | true => exact specDef_length infl st _ child
  | .flattenEntry items sg => rfl
end

/-- **C07 (count).** The emitted entry has exactly one item per tag and per present, non-ignored
plain field, transitively through present flattened children (plus the items of `flatten_entry`
fields verbatim); ignored fields, timestamps and absent `Option`s contribute nothing. -/
theorem c07_one_item_per_field (c : Cfg) (hl : c.limits.have_ ≤ c.limits.match_) (hf : c.forwards)
    (ns : NS) (d : Def) (hwf : wfDef d = true) : (expandDef c ns d).length = countDef d := by
  rw [c07_expansion_eq_spec c hl hf ns d hwf, specDef_length]

/-- a toy inflector that marks which style was applied -/
def toyInfl : Infl := fun st s =>
  match st with
  | .pascal => 'P' :: s
  | .snake => 's' :: s
  | .kebab => 'k' :: s
  | .preserve => s

def toyCfg : Cfg := { infl := toyInfl, limits := ⟨4, 4⟩ }

/-- grandchild: `rename_all = snake_case`, a `name` override, a sample-group string -/
def exGrand : Def :=
  .struct ⟨.snake, none⟩
    (.cons (.plain ['g'] none (some ['C', 'n', 't']) false (.num ['7'] ['N'])) <|
     .cons (.plain ['h'] (some ['H', '!']) none true (.str ['v'])) .nil)

/-- child: no `rename_all` (inherits), container `exact_prefix`, an absent `Option`, an ignored field -/
def exChild : Def :=
  .struct ⟨.preserve, some (.exact ['X', '.'])⟩
    (.cons (.plain ['c'] none none false (.some (.num ['1'] ['N']))) <|
     .cons (.plain ['o'] none none false .absent) <|
     .cons .ignore <|
     .cons (.flatten (some (.infl ['q', '_'])) true exGrand) .nil)

/-- root: entry enum, `rename_all = PascalCase`, container `prefix`, tag in the sample group -/
def exRoot : Def :=
  .enum ⟨.pascal, some (.infl ['r', '_'])⟩ (some (.infl ['o', 'p'] true)) ['V', 'a'] none false
    (.cons (.plain ['a'] none none false (.num ['2'] ['N'])) <|
     .cons (.flatten (some (.exact ['E', ':'])) true exChild) .nil)

/-- the tree meets the hypotheses of the item theorem, not of the partial sample-group theorem -/
example : wfDef exRoot = true ∧ sgPrefixFree exRoot = false ∧ sgPrefixFree exGrand = true
    ∧ countDef exRoot = 5 := by decide +kernel

/-- the emission is non-trivial: 5 items over three levels, names up to 7 bytes with limit 4 (so the
heap path of `const_str_value` is taken), inherited Pascal in the child, snake in the grandchild -/
example : expandDef toyCfg NS.root exRoot =
    [ (['P', 'r', '_', 'o', 'p'], ⟨.string, ['P', 'V', 'a'], []⟩),
      (['P', 'r', '_', 'a'], ⟨.metric, ['2'], ['N']⟩),
      (['E', ':', 'X', '.', 'P', 'c'], ⟨.metric, ['1'], ['N']⟩),
      (['E', ':', 'P', 'q', '_', 's', 'g'], ⟨.metric, ['7'], ['C', 'n', 't']⟩),
      (['E', ':', 'P', 'q', '_', 'H', '!'], ⟨.string, ['v'], []⟩) ] := by decide +kernel

/-- **Witness of the known finding** (`decide`d on the model that mirrors the code): the written
item is named `E:Pq_H!` but the sample-group pair is named `H!`; the documented pair is `E:Pq_H!`. -/
example : sgDef toyCfg NS.root exRoot = [ (['P', 'r', '_', 'o', 'p'], ['P', 'V', 'a']), (['H', '!'], ['v']) ]
    ∧ specSgDef toyInfl .preserve [] exRoot
        = [ (['P', 'r', '_', 'o', 'p'], ['P', 'V', 'a']), (['E', ':', 'P', 'q', '_', 'H', '!'], ['v']) ] := by
  decide +kernel

/-- a forwarding impl that loses the `NS` for `Arc` (what `T: InflectableEntry` — default
`Identity`, empty prefix — instead of `T: InflectableEntry<NS>` would mean) -/
def arcResetCfg : Cfg :=
  { toyCfg with wrapNs := fun w ns => match w with | .arc => NS.root | _ => ns }

/-- the grandchild behind an `Arc`, below a Pascal parent with a flatten prefix -/
def exArc : Def :=
  .struct ⟨.pascal, none⟩ (.cons (.flatten (some (.infl ['q', '_'])) true (.wrap .arc exGrand)) .nil)

/-- **Witness that `Cfg.forwards` is needed**: with forwarding impls that are the identity the
wrapped child is named like the bare child (`Pq_sg`, `Pq_H!`); a wrapper that resets the style and
the prefix chain emits `sg`, `H!` instead — C07 is violated for the items. -/
example : expandDef toyCfg NS.root exArc = specDef toyInfl .preserve [] exArc
    ∧ (expandDef toyCfg NS.root exArc).map (·.1) = [['P', 'q', '_', 's', 'g'], ['P', 'q', '_', 'H', '!']]
    ∧ (expandDef arcResetCfg NS.root exArc).map (·.1) = [['s', 'g'], ['H', '!']]
    ∧ expandDef arcResetCfg NS.root exArc ≠ specDef toyInfl .preserve [] exArc
    ∧ wfDef exArc = true := by decide +kernel

/-- a `ForceFlag` impl without a `sample_group` override (the code before fix 1af396b) -/
def forceFlagSilentCfg : Cfg :=
  { toyCfg with wrapSg := fun w => match w with | .forceFlag => false | _ => true }

/-- **Witness that forwarding `sample_group` is needed**: through forwarding impls the wrapped
child reports its documented pair; a wrapper that keeps the trait's default reports nothing — C07
("sample-group pairs use the same names") is violated although the written items are right. -/
example : sgDef toyCfg NS.root (.wrap .forceFlag exGrand) = [(['H', '!'], ['v'])]
    ∧ specSgDef toyInfl .preserve [] (.wrap .forceFlag exGrand) = [(['H', '!'], ['v'])]
    ∧ sgDef forceFlagSilentCfg NS.root (.wrap .forceFlag exGrand) = []
    ∧ expandDef forceFlagSilentCfg NS.root (.wrap .forceFlag exGrand)
        = specDef toyInfl .preserve [] (.wrap .forceFlag exGrand)
    ∧ sgPrefixFree (.wrap .forceFlag exGrand) = true := by decide +kernel

/-- a concatenation beyond the limit: static value unavailable, heap path taken, same string -/
example : (CStr.cat (.cat (.leaf []) (.leaf ['a', 'b', 'c'])) (.leaf ['d', 'e'])).haveVal 4 = false
    ∧ constStrValue ⟨4, 4⟩ (CStr.cat (.cat (.leaf []) (.leaf ['a', 'b', 'c'])) (.leaf ['d', 'e']))
        = ['a', 'b', 'c', 'd', 'e'] := by decide +kernel

end Naming

#print axioms Naming.c07_const_str_value
#print axioms Naming.c07_expansion_eq_spec
#print axioms Naming.c07_limits_consistent
#print axioms Naming.c07_root_entry_eq_spec
#print axioms Naming.c07_forwarding_impls_covered
#print axioms Naming.c07_one_item_per_field
#print axioms Naming.c07_sample_group_erases_flatten_prefix
#print axioms Naming.c07_sample_group_eq_spec_partial
