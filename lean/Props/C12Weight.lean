import Model.Sampling
import Mathlib.Algebra.Group.Nat.Defs
/-!
# C12, the EMF weight: `rate_to_n_alpha` / `rate_to_n` over exact arithmetic

A rate in `(0,1]` that is a binary32 value is `m · 2^-k` with `0 < m < 2^24`, `m ≤ 2^k`
(`c12_f32_rate_shape` in `Props/C12.lean`); `1/rate = 2^k / m`.

The import of `Mathlib.Algebra.Group.Nat.Defs` is needed although no lemma of it is used: with `Nat.instMonoid` in scope
`2 ^ k` on `Nat` elaborates through `Monoid.npow`, as it does in `Props/C12.lean` (which imports Mathlib); without it
`RateOK`, `fracBits` and `invSig` below would be stated with another power function than the theorems about them.
-/
namespace Sampling

theorem neg_sub_neg_toNat (j k : Nat) : (-(j : Int) - -(k : Int)).toNat = k - j := by
  rw [Int.sub_neg, Int.add_comm, ← Int.sub_eq_add_neg, Int.toNat_sub]

/-- two dyadics with exponents `≤ 0` over their common denominator `2^(max j k)` -/
theorem align_neg (m n j k : Nat) :
    (⟨m, -(j : Int)⟩ : Dy).align ⟨n, -(k : Int)⟩ = (m * 2 ^ (k - j), n * 2 ^ (j - k), -((max j k : Nat) : Int)) := by
  simp only [Dy.align]
  rcases Nat.le_total j k with h | h
  · rw [Nat.max_eq_right h, Int.min_eq_right (Int.neg_le_neg (Int.ofNat_le.2 h)), neg_sub_neg_toNat,
      neg_sub_neg_toNat, Nat.sub_self, Nat.sub_eq_zero_of_le h]
  · rw [Nat.max_eq_left h, Int.min_eq_left (Int.neg_le_neg (Int.ofNat_le.2 h)), neg_sub_neg_toNat,
      neg_sub_neg_toNat, Nat.sub_self, Nat.sub_eq_zero_of_le h]

theorem floor_negExp (M s : Nat) : (⟨M, -(s : Int)⟩ : Dy).floor = M / 2 ^ s := by
  unfold Dy.floor
  by_cases hs : s = 0
  · subst hs; simp
  · simp [hs]

theorem recip_negExp (M s : Nat) : (⟨M, -(s : Int)⟩ : Dy).recip = (2 ^ s, M) := by
  unfold Dy.recip Dy.frac
  by_cases hs : s = 0
  · subst hs; simp
  · simp [hs]

theorem divRne_cases (N D : Nat) :
    (divRne N D = N / D ∧ 2 * (N % D) ≤ D) ∨ (divRne N D = N / D + 1 ∧ D ≤ 2 * (N % D)) := by
  unfold divRne
  by_cases h1 : 2 * (N % D) < D
  · rw [if_pos h1]; exact .inl ⟨rfl, Nat.le_of_lt h1⟩
  · rw [if_neg h1]
    by_cases h2 : D < 2 * (N % D)
    · rw [if_pos h2]; exact .inr ⟨rfl, Nat.le_of_lt h2⟩
    · rw [if_neg h2]
      split
      · exact .inl ⟨rfl, Nat.le_of_not_lt h2⟩
      · exact .inr ⟨rfl, Nat.le_of_not_lt h1⟩

/-- the rounding error of `divRne` is at most half a unit: `|M·D − N| ≤ D/2` -/
theorem divRne_err (N D : Nat) (hD : 0 < D) :
    2 * (divRne N D * D) ≤ 2 * N + D ∧ 2 * N ≤ 2 * (divRne N D * D) + D := by
  have hdm := Nat.div_add_mod N D
  have hlt : N % D < D := Nat.mod_lt _ hD
  rcases divRne_cases N D with ⟨h, hr⟩ | ⟨h, hr⟩
  · rw [h, Nat.mul_comm (N / D) D]
    generalize D * (N / D) = X at hdm ⊢
    omega
  · rw [h, Nat.add_mul, Nat.one_mul, Nat.mul_comm (N / D) D]
    generalize D * (N / D) = X at hdm ⊢
    omega

theorem divRne_mul_right (a b c : Nat) (hc : 0 < c) : divRne (a * c) (b * c) = divRne a b := by
  unfold divRne
  rw [Nat.mul_div_mul_right _ _ hc, Nat.mul_mod_mul_right]
  have e1 : (2 * (a % b * c) < b * c) ↔ (2 * (a % b) < b) := by
    rw [← Nat.mul_assoc]; exact Nat.mul_lt_mul_right hc
  have e2 : (b * c < 2 * (a % b * c)) ↔ (b < 2 * (a % b)) := by
    rw [← Nat.mul_assoc]; exact Nat.mul_lt_mul_right hc
  simp only [e1, e2]

/-- the scaling chosen by `rneP 53` for `2^k / m` makes the quotient a 53-bit number -/
theorem rneUp_range (k m : Nat) (hm : 0 < m) :
    2 ^ 52 * m ≤ 2 ^ rneUp 53 (2 ^ k) m ∧ 2 ^ rneUp 53 (2 ^ k) m < 2 ^ 53 * m := by
  have hL1 : 2 ^ Nat.log2 m ≤ m := Nat.log2_self_le (by omega)
  have hL2 : m < 2 ^ (Nat.log2 m + 1) := Nat.lt_log2_self
  unfold rneUp
  simp only [Nat.log2_two_pow, show 53 - 1 = 52 from rfl]
  rw [Nat.pow_succ] at hL2
  rw [Nat.mul_comm (2 ^ k), Nat.mul_div_mul_right _ _ (Nat.two_pow_pos k)]
  have e := Nat.pow_add 2 52 m.log2
  split <;> rename_i h <;> rw [Nat.div_lt_iff_lt_mul hm] at h
  · rw [Nat.pow_succ]; omega
  · omega

/-- hypotheses "binary32 rate in (0,1] with 1/rate < 2^53", for `rate = m · 2^-k` -/
structure RateOK (m k : Nat) : Prop where
  m_pos : 0 < m
  /-- 24-bit significand -/
  m_lt : m < 2 ^ 24
  /-- `rate ≤ 1` -/
  le_one : m ≤ 2 ^ k
  /-- `1/rate < 2^53` -/
  recip_lt : 2 ^ k < m * 2 ^ 53

/-- the number of fraction bits of `inv` -/
def fracBits (m k : Nat) : Nat := rneUp 53 (2 ^ k) m - k
/-- the significand of `inv = invSig / 2^fracBits` -/
def invSig (m k : Nat) : Nat := divRne (2 ^ (k + fracBits m k)) m

theorem up_eq (m k : Nat) (h : RateOK m k) : rneUp 53 (2 ^ k) m = k + fracBits m k ∧ fracBits m k ≤ 52 := by
  have hr := rneUp_range k m h.m_pos
  have h1 : 2 ^ k < 2 ^ (rneUp 53 (2 ^ k) m + 1) := by
    rw [Nat.pow_succ]; have := h.recip_lt; omega
  have h2 : k < rneUp 53 (2 ^ k) m + 1 := (Nat.pow_lt_pow_iff_right Nat.one_lt_two).mp h1
  have h3 : 2 ^ rneUp 53 (2 ^ k) m < 2 ^ (53 + k) := by
    rw [Nat.pow_add]
    have := Nat.mul_le_mul_left (2 ^ 53) h.le_one
    omega
  have h4 : rneUp 53 (2 ^ k) m < 53 + k := (Nat.pow_lt_pow_iff_right Nat.one_lt_two).mp h3
  unfold fracBits; omega

/-- `1.0 / rate` in binary64 is `invSig / 2^fracBits` -/
theorem invRate_eq (m k : Nat) (h : RateOK m k) :
    invRate ⟨m, -(k : Int)⟩ = ⟨invSig m k, -(fracBits m k : Int)⟩ := by
  have hk : 0 < 2 ^ k := Nat.two_pow_pos k
  unfold invRate
  rw [recip_negExp]
  unfold rneP
  rw [if_neg (by omega)]
  simp only [Nat.log2_two_pow]
  rw [(up_eq m k h).1]
  congr 1
  · unfold invSig
    rw [Nat.mul_comm (2 ^ k) _, Nat.mul_comm m _, ← Nat.pow_add,
      show k + fracBits m k + k = (k + fracBits m k) + k from rfl, Nat.pow_add, Nat.mul_comm (2 ^ k) m,
      divRne_mul_right _ _ _ hk, Nat.pow_add]
  · push_cast; omega

theorem invSig_spec (m k : Nat) (h : RateOK m k) :
    2 ^ 52 * m ≤ 2 ^ (k + fracBits m k) ∧ 2 ^ (k + fracBits m k) < 2 ^ 53 * m ∧
    2 * (invSig m k * m) ≤ 2 * 2 ^ (k + fracBits m k) + m ∧
    2 * 2 ^ (k + fracBits m k) ≤ 2 * (invSig m k * m) + m := by
  have hr := rneUp_range k m h.m_pos
  rw [(up_eq m k h).1] at hr
  exact ⟨hr.1, hr.2, divRne_err _ _ h.m_pos⟩

/-- `1/rate ≤ 2^53 − 2^29`: here the 24-bit significand of a binary32 rate is used (for a general
rational `1/rate` just below `2^53` the rounded inverse could reach `2^53`). -/
theorem recip_le (m k : Nat) (h : RateOK m k) : 2 ^ k ≤ (2 ^ 53 - 2 ^ 29) * m := by
  have hm := h.m_pos
  by_cases hk : k ≤ 52
  · have := Nat.pow_le_pow_right Nat.two_pos hk
    omega
  · have hlt := h.recip_lt
    have hm24 := h.m_lt
    rw [show k = k - 53 + 53 by omega, Nat.pow_add] at hlt ⊢
    omega

theorem min_u64Max (x : Nat) (h : x < 2 ^ 53) : min x u64Max = x :=
  Nat.min_eq_left (Nat.le_of_lt (Nat.lt_trans h (by decide)))

theorem n_small (m k : Nat) (h : RateOK m k) : invSig m k / 2 ^ fracBits m k + 2 < 2 ^ 53 := by
  have hA := Nat.mul_le_mul_right (2 ^ fracBits m k) (recip_le m k h)
  rw [← Nat.pow_add, Nat.mul_right_comm] at hA
  have hQ := Nat.div_le_of_le_mul (Nat.mul_comm .. ▸ hA)
  have hM : invSig m k ≤ 2 ^ (k + fracBits m k) / m + 1 := by
    unfold invSig; rcases divRne_cases (2 ^ (k + fracBits m k)) m with ⟨e, -⟩ | ⟨e, -⟩ <;> omega
  have hW := Nat.two_pow_pos (fracBits m k)
  have : invSig m k / 2 ^ fracBits m k ≤ 2 ^ 53 - 2 ^ 29 + 1 :=
    Nat.div_le_of_le_mul (by rw [Nat.mul_add, Nat.mul_one, Nat.mul_comm]; omega)
  omega

/-- **`rate_to_n_alpha` in closed form** for a binary32 rate in `(0,1]` with `1/rate < 2^53`:
`inv = M/2^s`, `n = ⌊inv⌋ = M / 2^s`, `alpha = (n+1) − inv = (2^s − M mod 2^s)/2^s`, computed without
rounding (`s ≤ 52`, so `alpha` needs at most 53 bits: the Sterbenz-type exactness of `(n+1) as f64 − inv`). -/
theorem rateToNAlpha_eq (m k : Nat) (h : RateOK m k) :
    rateToNAlpha ⟨m, -(k : Int)⟩ =
      (invSig m k / 2 ^ fracBits m k,
       ⟨2 ^ fracBits m k - invSig m k % 2 ^ fracBits m k, -(fracBits m k : Int)⟩) := by
  have hn := n_small m k h
  unfold rateToNAlpha
  simp only [invRate_eq m k h, floor_negExp]
  rw [min_u64Max _ (by omega),
    show natToF64 (invSig m k / 2 ^ fracBits m k + 1) = ⟨invSig m k / 2 ^ fracBits m k + 1, 0⟩ from if_pos (by omega)]
  congr 1
  show (⟨_, -((0 : Nat) : Int)⟩ : Dy).sub _ = _
  simp only [Dy.sub, align_neg, Nat.sub_zero, Nat.zero_sub, Nat.pow_zero, Nat.mul_one, Nat.zero_max]
  congr 1
  have hdm := Nat.div_add_mod (invSig m k) (2 ^ fracBits m k)
  have hlt : invSig m k % 2 ^ fracBits m k < 2 ^ fracBits m k := Nat.mod_lt _ (Nat.two_pow_pos _)
  rw [Nat.add_mul, Nat.one_mul, Nat.mul_comm (invSig m k / 2 ^ fracBits m k)]
  generalize 2 ^ fracBits m k * (invSig m k / 2 ^ fracBits m k) = X at hdm ⊢
  omega

end Sampling
