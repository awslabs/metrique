import Props.C02c
/-!
Lemmas for C02: the shape of an EMF record and why that shape is valid JSON; `finish` — the namespace
replication loops, the dimension list, and the shape of the records it writes.
-/
namespace Emf
open Json

def awsHead : Bytes := bytes! "{\"_aws\":{\"CloudWatchMetrics\":["
def nsKey : Bytes := bytes! "{\"Namespace\":"

theorem awsOpen_eq : awsOpen = awsHead ++ nsKey := rfl

/-- `{"Namespace":ns,"Dimensions":[D],"Metrics":[M]}` -/
def dirOf (ns D M : Bytes) : Bytes :=
  nsKey ++ ns ++ dimensionsAfterNs ++ D ++ metricsPrefix ++ M ++ bytes! "]}"

/-- a metric directive: an object with `Namespace` (a string), `Dimensions` and `Metrics` (arrays) —
either the formatter's own, or a user-supplied extra directive as serde prints it -/
def IsDirective (d : Bytes) : Prop :=
  (∃ ns D M, d = dirOf (jstr ns) D M ∧ IsItems D ∧ IsItems M) ∨ (∃ e : ExtraDirective, d = extraDirectiveJson e)

/-- the body of an EMF record, in the pieces `finish` assembles it from:
`{"_aws":{"CloudWatchMetrics":[d0,d1,…](,"LogGroupName":"g")?,"Timestamp":<digits>}<members>}` -/
def AwsShape (body : Bytes) : Prop :=
  ∃ (d0 : Bytes) (ds : List Bytes) (lg : Option Bytes) (ts : Nat) (members : Bytes),
    body = awsHead ++ d0 ++ (ds.map (44 :: ·)).flatten ++ logGroupTsStr lg ++ natDigits ts ++ [125] ++ members ++ [125] ∧
    IsDirective d0 ∧ (∀ d ∈ ds, IsDirective d) ∧ IsMembers members

theorem IsVal.extraMetricJson (m : ExtraMetric) : IsVal (extraMetricJson m) := by
  have hs : Runs (match m.storage with
      | some n => bytes! ",\"StorageResolution\":" ++ natDigits n
      | none => []) [.obj] Done [.obj] Done := by
    cases m.storage with
    | none => exact IsMembers.nil
    | some n =>
      exact (Runs.close [.obj] [.obj] Ready fun _ => ⟨_, rfl, Or.inl rfl⟩).append ((IsVal.natDigits n).runs _)
  exact Runs.append (Runs.append (Runs.append (Runs.append (Runs.append
    (Runs.open [] [.obj] Ready fun _ => ⟨_, ⟨rfl, rfl⟩, Or.inl rfl⟩)
    ((IsVal.jstr m.name).runs _))
    (Runs.close [.obj] [.obj] Ready fun _ => ⟨_, rfl, Or.inl rfl⟩))
    ((IsVal.jstr m.unit).runs _))
    hs)
    (Runs.close [.obj] [] Done fun _ => ⟨_, rfl, done_after⟩)

theorem IsDirective.isVal {d : Bytes} (h : IsDirective d) : IsVal d := by
  rcases h with ⟨ns, D, M, rfl, hD, hM⟩ | ⟨e, rfl⟩
  · exact Runs.append (Runs.append (Runs.append (Runs.append (Runs.append (Runs.append
      (Runs.open [] [.obj] Ready fun _ => ⟨_, ⟨rfl, rfl⟩, Or.inl rfl⟩)
      ((IsVal.jstr ns).runs _))
      (Runs.close [.obj] [.arr, .obj] (· = .valOrClose) fun _ => ⟨_, rfl, rfl⟩))
      (hD.runs _))
      (Runs.closeArr [.obj] [.arr, .obj] (· = .valOrClose) fun _ => ⟨_, rfl, rfl⟩))
      (hM.runs _))
      (Runs.closeArr [.obj] [] Done fun _ => ⟨_, rfl, done_after⟩)
  · exact Runs.append (Runs.append (Runs.append (Runs.append (Runs.append (Runs.append
      (Runs.open [] [.arr, .obj] (· = .valOrClose) fun _ => ⟨_, ⟨rfl, rfl⟩, rfl⟩)
      ((IsItems.sepBy_map _ fun x _ => (IsArrLit.jarrStrings x).isVal).runs _))
      (Runs.closeArr [.obj] [.arr, .obj] (· = .valOrClose) fun _ => ⟨_, rfl, rfl⟩))
      ((IsItems.sepBy_map _ fun x _ => IsVal.extraMetricJson x).runs _))
      (Runs.closeArr [.obj] [.obj] Ready fun _ => ⟨_, rfl, Or.inl rfl⟩))
      ((IsVal.jstr e.nspace).runs _))
      (Runs.close [.obj] [] Done fun _ => ⟨_, rfl, done_after⟩)

/-- `],"LogGroupName":"g","Timestamp":` / `],"Timestamp":` closes the directive array -/
theorem logGroupTs_runs (lg : Option Bytes) (c : List Ctx) :
    Runs (logGroupTsStr lg) (.arr :: .obj :: c) Done (.obj :: c) Ready := by
  cases lg with
  | none => exact Runs.close _ _ Ready fun _ => ⟨_, rfl, Or.inl rfl⟩
  | some g =>
    exact Runs.append (Runs.append
      (Runs.close _ (.obj :: c) Ready fun _ => ⟨_, rfl, Or.inl rfl⟩)
      ((IsVal.jstr g).runs _))
      (Runs.close _ _ Ready fun _ => ⟨_, rfl, Or.inl rfl⟩)

theorem AwsShape.isVal {body : Bytes} (h : AwsShape body) : IsVal body := by
  obtain ⟨d0, ds, lg, ts, members, rfl, h0, hds, hm⟩ := h
  exact Runs.append (Runs.append (Runs.append (Runs.append (Runs.append (Runs.append (Runs.append
    (Runs.open [] [.arr, .obj, .obj] Ready fun _ => ⟨_, ⟨rfl, rfl⟩, Or.inr rfl⟩)
    (h0.isVal.runs _))
    ((IsElems.commaList ds fun d hd => (hds d hd).isVal).runs _))
    (logGroupTs_runs lg [.obj]))
    ((IsVal.natDigits ts).runs _))
    (Runs.close [.obj, .obj] [.obj] Done fun _ => ⟨_, rfl, done_after⟩))
    (hm.runs []))
    (Runs.close [.obj] [] Done fun _ => ⟨_, rfl, done_after⟩)

def nsOpen : Bytes := bytes! ",{\"Namespace\":"

theorem extend_window (X Y : Bytes) (a : Nat) (ha : a ≤ X.length) :
    ((X ++ Y).drop a).take (X.length - a) = X.drop a := by
  rw [List.drop_append_of_le_length ha]
  exact List.take_left' (by simp)

theorem replicateNsEntry_spec (moreNs : List Bytes) (a p : Nat) (X acc : Bytes) (ha : a ≤ X.length) :
    replicateNsEntry moreNs a X.length ⟨p, X ++ acc⟩ =
      ⟨p, X ++ acc ++ (moreNs.map fun ns => nsOpen ++ ns ++ X.drop a).flatten⟩ := by
  unfold replicateNsEntry
  induction moreNs generalizing acc with
  | nil => simp
  | cons ns rest ih =>
    simp only [List.foldl_cons, List.map_cons, List.flatten_cons]
    have : (((PBuf.mk p (X ++ acc)).pushRaw (bytes! ",{\"Namespace\":")).pushRaw ns).extendFromWithin a X.length =
        ⟨p, X ++ (acc ++ nsOpen ++ ns ++ X.drop a)⟩ := by
      simp only [PBuf.pushRaw, PBuf.extendFromWithin]
      have e : X ++ acc ++ bytes! ",{\"Namespace\":" ++ ns = X ++ (acc ++ nsOpen ++ ns) := by simp [nsOpen]
      rw [e, extend_window X _ a ha]
      simp
    rw [this, ih]
    simp

/-- the finished `metrics_buf` of an entry whose directive is `H ++ T` with `H` ending after the namespace -/
theorem finishEntryMetrics_buf (c : Consts) (ts : Bytes) (e : DimEntry) (H T : Bytes)
    (hm : e.metricsBuf.buf = H ++ T) (ha : e.afterNsIndex = H.length) :
    (finishEntryMetrics c ts e).buf =
      H ++ (T ++ bytes! "]}") ++ (c.moreNs.map fun ns => nsOpen ++ ns ++ (T ++ bytes! "]}")).flatten ++ c.logGroupTs ++ ts := by
  have hX : e.metricsBuf.pushRaw (bytes! "]}") = ⟨e.metricsBuf.prefixLen, H ++ (T ++ bytes! "]}")⟩ := by
    simp [PBuf.pushRaw, hm]
  have hr := replicateNsEntry_spec c.moreNs H.length e.metricsBuf.prefixLen (H ++ (T ++ bytes! "]}")) [] (by simp)
  rw [List.drop_left, List.append_nil] at hr
  unfold finishEntryMetrics
  simp only
  rw [hX, ha, hr]
  rfl

theorem replicateNsGlobal_spec (moreNs : List Bytes) (tail : Bytes) (p : Nat) (X acc : Bytes) :
    replicateNsGlobal moreNs tail X.length ⟨p, X ++ acc⟩ =
      ⟨p, X ++ acc ++ (moreNs.map fun ns => nsOpen ++ ns ++ tail ++ X).flatten⟩ := by
  unfold replicateNsGlobal
  induction moreNs generalizing acc with
  | nil => simp
  | cons ns rest ih =>
    simp only [List.foldl_cons, List.map_cons, List.flatten_cons]
    have : ((((PBuf.mk p (X ++ acc)).pushRaw (bytes! ",{\"Namespace\":")).pushRaw ns).pushRaw tail).extendFromWithin
          0 X.length = ⟨p, X ++ (acc ++ nsOpen ++ ns ++ tail ++ X)⟩ := by
      simp only [PBuf.pushRaw, PBuf.extendFromWithin]
      have e : X ++ acc ++ bytes! ",{\"Namespace\":" ++ ns ++ tail = X ++ (acc ++ nsOpen ++ ns ++ tail) := by
        simp [nsOpen]
      have := extend_window X (acc ++ nsOpen ++ ns ++ tail) 0 (Nat.zero_le _)
      simp only [Nat.sub_zero, List.drop_zero] at this
      rw [e]
      simp only [List.drop_zero, Nat.sub_zero, this]
      simp
    rw [this, ih]
    simp

/-- the no-dimension record, given the finished `dimensions_buf` `H ++ T` with `H` ending after the namespace -/
theorem finishGlobal_line (c : Consts) (st : State) (dims : List Bytes) (H T : Bytes)
    (hd : (pushDimensions dims true st.dimensionsBuf.clear).buf = H ++ T) (ha : c.afterNsIndex = H.length) :
    (finishGlobal c st dims ⟨none, [], false⟩).2.2.bytes =
      [H ++ T,
       (st.metricsBuf.buf ++ bytes! "]}") ++
         (c.moreNs.map fun ns => nsOpen ++ ns ++ T ++ (st.metricsBuf.buf ++ bytes! "]}")).flatten,
       st.declBuf.buf, st.fieldsBuf.buf, st.stringFieldsBuf.buf].flatten := by
  have hrep := replicateNsGlobal_spec c.moreNs T st.metricsBuf.prefixLen (st.metricsBuf.buf ++ bytes! "]}") []
  simp only [List.append_nil] at hrep
  unfold finishGlobal
  simp only
  rw [hd, ha, List.drop_left,
    show st.metricsBuf.pushRaw (bytes! "]}") = ⟨st.metricsBuf.prefixLen, st.metricsBuf.buf ++ bytes! "]}"⟩ from rfl, hrep]
  rfl

theorem pushDimensions_eq (dims : List (List Nat)) (first : Bool) (b : PBuf) :
    pushDimensions dims first b =
      ⟨b.prefixLen, b.buf ++ (if first then sepBy [44] dims else (dims.map fun x => 44 :: x).flatten)⟩ := by
  induction dims generalizing first b with
  | nil => cases first <;> simp [pushDimensions, sepBy]
  | cons d rest ih =>
    simp only [pushDimensions, ih, Bool.false_eq_true, if_false]
    cases first <;> simp [PBuf.pushRaw, PBuf.push, sepBy_cons_flat]

theorem nsOpen_eq : nsOpen = 44 :: nsKey := rfl

theorem dimLine_shape (cfg : Config) (ts : Nat) (P F D M S : Bytes) (hP : IsMembers P) (hF : IsMembers F)
    (hD : IsItems D) (hM : IsItems M) (hS : IsMembers S) :
    ∃ body, (recHead cfg ++ D ++ metricsPrefix ++ M ++ bytes! "]}" ++
        (((Consts.ofConfig cfg).moreNs.map fun ns => nsOpen ++ ns ++
          (dimensionsAfterNs ++ D ++ metricsPrefix ++ M ++ bytes! "]}")).flatten) ++
        (Consts.ofConfig cfg).logGroupTs ++ natDigits ts) ++ ((125 :: P ++ F) ++ (S ++ bytes! "}\n")) = body ++ [10] ∧
      AwsShape body := by
  refine ⟨_, ?_, dirOf (jstr cfg.ns0) D M, (Consts.ofConfig cfg).moreNs.map (fun ns => dirOf ns D M), cfg.logGroup, ts,
    P ++ F ++ S, rfl, Or.inl ⟨_, _, _, rfl, hD, hM⟩, ?_, (hP.append hF).append hS⟩
  · have hreps : ((Consts.ofConfig cfg).moreNs.map fun ns => nsOpen ++ ns ++
          (dimensionsAfterNs ++ D ++ metricsPrefix ++ M ++ bytes! "]}")).flatten =
        (((Consts.ofConfig cfg).moreNs.map fun ns => dirOf ns D M).map (44 :: ·)).flatten := by
      rw [List.map_map]
      refine congrArg List.flatten (List.map_congr_left fun ns _ => ?_)
      simp only [Function.comp, nsOpen_eq, dirOf, List.append_assoc, List.cons_append]
    rw [hreps]
    simp only [dirOf, recHead, awsOpen_eq, List.append_assoc, List.cons_append, List.nil_append]
    rfl
  · intro d hd
    obtain ⟨x, hx, rfl⟩ := List.mem_map.mp hd
    obtain ⟨ns, _, rfl⟩ := List.mem_map.mp hx
    exact Or.inl ⟨_, _, _, rfl, hD, hM⟩

theorem entryLine_shape (cfg : Config) (ts : Nat) (S : Bytes) (hS : IsMembers S) (e : DimEntry)
    (he : DimInv cfg e) {l : Bytes}
    (hl : entryLine (Consts.ofConfig cfg) (natDigits ts) (S ++ bytes! "}\n") e = some l) :
    ∃ body, l = body ++ [10] ∧ AwsShape body := by
  unfold entryLine at hl
  split at hl
  · cases hl
  cases hl
  obtain ⟨P, F, D, M, hF, hP, hFm, hMb, hD, hM, ha⟩ := he
  obtain ⟨body, hbody, hshape⟩ := dimLine_shape cfg ts P F D M S hP hFm hD hM hS
  refine ⟨body, ?_, hshape⟩
  rw [← hbody, finishEntryMetrics_buf _ _ e (awsOpen ++ jstr cfg.ns0) (dimensionsAfterNs ++ D ++ metricsPrefix ++ M)
    (by rw [hMb]; simp [recHead]) ha, hF]
  simp [recHead, List.append_assoc]

theorem globalLine_shape (cfg : Config) (ts : Nat) (Dg M F S : Bytes) (hDg : IsItems Dg) (hM : IsItems M)
    (hF : IsMembers F) (hS : IsMembers S) :
    ∃ body, [recHead cfg ++ Dg,
        (metricsPrefix ++ M ++ bytes! "]}") ++ ((Consts.ofConfig cfg).moreNs.map fun ns =>
          nsOpen ++ ns ++ (dimensionsAfterNs ++ Dg) ++ (metricsPrefix ++ M ++ bytes! "]}")).flatten,
        extraDirectivesStr cfg.extraDirectives ++ (Consts.ofConfig cfg).logGroupTs ++ natDigits ts,
        125 :: F, S ++ bytes! "}\n"].flatten = body ++ [10] ∧ AwsShape body := by
  refine ⟨_, ?_, dirOf (jstr cfg.ns0) Dg M,
    (Consts.ofConfig cfg).moreNs.map (fun ns => dirOf ns Dg M) ++ cfg.extraDirectives.map extraDirectiveJson,
    cfg.logGroup, ts, F ++ S, rfl, Or.inl ⟨_, _, _, rfl, hDg, hM⟩, ?_, hF.append hS⟩
  · have hreps : ((Consts.ofConfig cfg).moreNs.map fun ns =>
          nsOpen ++ ns ++ (dimensionsAfterNs ++ Dg) ++ (metricsPrefix ++ M ++ bytes! "]}")).flatten =
        (((Consts.ofConfig cfg).moreNs.map fun ns => dirOf ns Dg M).map (44 :: ·)).flatten := by
      rw [List.map_map]
      refine congrArg List.flatten (List.map_congr_left fun ns _ => ?_)
      simp only [Function.comp, nsOpen_eq, dirOf, List.append_assoc, List.cons_append]
    have hextra : extraDirectivesStr cfg.extraDirectives =
        ((cfg.extraDirectives.map extraDirectiveJson).map (44 :: ·)).flatten := by
      rw [List.map_map]; rfl
    rw [hreps, hextra]
    simp only [dirOf, recHead, awsOpen_eq, List.map_append, List.flatten_append, List.flatten_cons, List.flatten_nil,
      List.append_assoc, List.cons_append, List.nil_append, List.append_nil]
    rfl
  · intro d hd
    rcases List.mem_append.mp hd with h | h
    · obtain ⟨x, hx, rfl⟩ := List.mem_map.mp h
      obtain ⟨ns, _, rfl⟩ := List.mem_map.mp hx
      exact Or.inl ⟨_, _, _, rfl, hDg, hM⟩
    · obtain ⟨e, _, rfl⟩ := List.mem_map.mp h
      exact Or.inr ⟨e, rfl⟩

theorem afterNsIndex_eq (cfg : Config) : (Consts.ofConfig cfg).afterNsIndex = (awsOpen ++ jstr cfg.ns0).length := by
  simp [Consts.ofConfig, dimensionsPrefix]; omega

theorem finishGlobal_spec (cfg : Config) (ts : Nat) (st : State) (dims : List Bytes) (hd : ∀ d ∈ dims, IsArrLit d)
    (F M S : Bytes) (hF : IsMembers F) (hM : IsItems M) (hS : IsMembers S)
    (hf : st.fieldsBuf = ⟨1, 125 :: F⟩) (hm : st.metricsBuf = ⟨metricsPrefix.length, metricsPrefix ++ M⟩)
    (hsf : st.stringFieldsBuf.buf = S ++ bytes! "}\n")
    (hdecl : st.declBuf.buf = extraDirectivesStr cfg.extraDirectives ++ (Consts.ofConfig cfg).logGroupTs ++ natDigits ts)
    (hdb : st.dimensionsBuf.WF (dimensionsPrefix cfg)) :
    ∃ body, (finishGlobal (Consts.ofConfig cfg) st dims ⟨none, [], false⟩).2.2.bytes = body ++ [10] ∧ AwsShape body := by
  obtain ⟨body, hbody, hshape⟩ := globalLine_shape cfg ts (sepBy [44] dims) M F S
    (IsItems.sepBy fun d h => (hd d h).isVal) hM hF hS
  refine ⟨body, ?_, hshape⟩
  have hclear : st.dimensionsBuf.clear = ⟨(dimensionsPrefix cfg).length, recHead cfg ++ []⟩ := by
    rw [hdb.clear_eq]; simp [PBuf.new, recHead, dimensionsPrefix]
  rw [finishGlobal_line _ st dims (awsOpen ++ jstr cfg.ns0) (dimensionsAfterNs ++ sepBy [44] dims)
    (by rw [hclear, pushDimensions_eq]; simp [recHead]) (afterNsIndex_eq cfg), hm, hf, hsf, hdecl, ← hbody]
  simp only [recHead, List.append_assoc]

theorem finishWrite_spec (cfg : Config) {w : Writer} (h : WInv cfg w) (ts : Nat) :
    ∃ lines, lines ≠ [] ∧
      (finishWrite (Consts.ofConfig cfg) w.st (w.entryDims.getD (Consts.ofConfig cfg).eachDims) (natDigits ts)
        ⟨none, [], false⟩).2 = (.ok, ⟨none, lines.flatten, false⟩) ∧
      ∀ l ∈ lines, ∃ body, l = body ++ [10] ∧ AwsShape body := by
  obtain ⟨S, hS, hSm⟩ := h.sf
  obtain ⟨F, hF, hFm⟩ := h.f
  obtain ⟨M, hM, hMi⟩ := h.m
  have hdims : ∀ d ∈ w.entryDims.getD (Consts.ofConfig cfg).eachDims, IsArrLit d := by
    cases hd : w.entryDims with
    | none => exact eachDims_arr cfg
    | some ds => exact h.ed ds hd
  have hsf : w.st.stringFieldsBuf.buf = S := by rw [hS]
  have hsplit : ∀ l ∈ w.st.dimMap.filterMap
      (entryLine (Consts.ofConfig cfg) (natDigits ts) (w.st.stringFieldsBuf.buf ++ bytes! "}\n")),
      ∃ body, l = body ++ [10] ∧ AwsShape body := by
    intro l hl
    obtain ⟨e, he, hle⟩ := List.mem_filterMap.mp hl
    rw [hsf] at hle
    exact entryLine_shape cfg ts S hSm e (h.dm e he) hle
  refine ⟨_, ?_, finishWrite_recordLines _ _ _ _, fun l hl => ?_⟩
  · unfold recordLines
    simp only
    split
    · simp
    · rename_i hg; intro h0; simp [h0] at hg
  · unfold recordLines at hl
    simp only at hl
    split at hl
    · rcases List.mem_append.mp hl with hl | hl
      · exact hsplit l hl
      · obtain ⟨body, hb, hshape⟩ := finishGlobal_spec cfg ts
          { w.st with declBuf := (w.st.declBuf.pushRaw (Consts.ofConfig cfg).logGroupTs).pushRaw (natDigits ts),
                      stringFieldsBuf := w.st.stringFieldsBuf.pushRaw (bytes! "}\n") }
          (w.entryDims.getD (Consts.ofConfig cfg).eachDims) hdims F M S hFm hMi hSm hF hM (by rw [hS]; rfl)
          (by simp only [h.decl]; simp [PBuf.new, PBuf.pushRaw]) h.dbuf
        rw [List.mem_singleton.mp hl, hb]
        exact ⟨body, rfl, hshape⟩
    · exact hsplit l hl

theorem finish_spec (cfg : Config) {w : Writer} (h : WInv cfg w) (nowMs : Nat)
    (hne : (finishErrors (Consts.ofConfig cfg) w).isEmpty = true) :
    ∃ lines, lines ≠ [] ∧
      (finish (Consts.ofConfig cfg) w nowMs ⟨none, [], false⟩).2 = (.ok, ⟨none, lines.flatten, false⟩) ∧
      ∀ l ∈ lines, ∃ body, l = body ++ [10] ∧ AwsShape body := by
  unfold finish
  simp only [hne, Bool.not_true, Bool.false_eq_true, ↓reduceIte]
  exact finishWrite_spec cfg h _

theorem finish_ok_errors (c : Consts) (w : Writer) (nowMs : Nat) (out : Out)
    (h : (finish c w nowMs out).2.1 = .ok) : (finishErrors c w).isEmpty = true := by
  unfold finish at h
  simp only at h
  cases he : (finishErrors c w).isEmpty with
  | true => rfl
  | false => simp [he] at h

/-! ### A writer with a byte budget that did not fail behaves like one that never fails -/

def OutSim (o u : Out) : Prop := u.budget = none ∧ u.failed = false ∧ o.failed = false ∧ o.bytes = u.bytes

theorem writeAll_sim {o u : Out} (h : OutSim o u) (bufs : List Bytes)
    (hf : (o.writeAll bufs).failed = false) : OutSim (o.writeAll bufs) (u.writeAll bufs) := by
  obtain ⟨hb, huf, hof, hbytes⟩ := h
  obtain ⟨ub, ubytes, ufailed⟩ := u
  obtain ⟨ob, obytes, ofailed⟩ := o
  simp only at hb huf hof hbytes
  subst hb huf hof hbytes
  cases ob with
  | none => exact ⟨rfl, rfl, rfl, rfl⟩
  | some b =>
    unfold Out.writeAll at hf ⊢
    simp only at hf ⊢
    split
    · exact ⟨rfl, rfl, rfl, rfl⟩
    · rename_i hgt; rw [if_neg hgt] at hf; cases hf

theorem finishDims_sim (c : Consts) (ts sf : Bytes) (dm : List DimEntry) {o u : Out} (h : OutSim o u) (any : Bool)
    (hf : (finishDims c ts sf dm o any).2.1.failed = false) :
    OutSim (finishDims c ts sf dm o any).2.1 (finishDims c ts sf dm u any).2.1 ∧
    (finishDims c ts sf dm o any).2.2 = (finishDims c ts sf dm u any).2.2 ∧
    (finishDims c ts sf dm o any).1 = (finishDims c ts sf dm u any).1 := by
  induction dm generalizing o u any with
  | nil => exact ⟨h, rfl, rfl⟩
  | cons e rest ih =>
    unfold finishDims at hf ⊢
    simp only at hf ⊢
    cases hemp : e.fieldsBuf.isEmpty with
    | true =>
      simp only [hemp, ↓reduceIte] at hf ⊢
      obtain ⟨h1, h2, h3⟩ := ih h any hf
      exact ⟨h1, h2, by rw [h3]⟩
    | false =>
      simp only [hemp, Bool.false_eq_true, ↓reduceIte] at hf ⊢
      cases hw : (o.writeAll [(finishEntryMetrics c ts e).buf, e.fieldsBuf.buf, sf]).failed with
      | true => simp [hw] at hf
      | false =>
        have hs := writeAll_sim h _ hw
        simp only [hw, Bool.false_eq_true, ↓reduceIte] at hf ⊢
        simp only [hs.2.1, Bool.false_eq_true, ↓reduceIte]
        obtain ⟨h1, h2, h3⟩ := ih hs true hf
        exact ⟨h1, h2, by rw [h3]⟩

theorem finishGlobal_sim (c : Consts) (st : State) (dims : List Bytes) {o u : Out} (h : OutSim o u)
    (hok : (finishGlobal c st dims o).2.1 = .ok) :
    (finishGlobal c st dims u).2.1 = .ok ∧
    (finishGlobal c st dims o).2.2.bytes = (finishGlobal c st dims u).2.2.bytes := by
  unfold finishGlobal at hok ⊢
  simp only at hok ⊢
  split at hok
  · cases hok
  · rename_i hnf
    have hs := writeAll_sim h _ (by simpa using hnf)
    simp only [hs.2.1, Bool.false_eq_true, ↓reduceIte, true_and]
    exact hs.2.2.2

theorem finishWrite_sim (c : Consts) (st : State) (dims : List Bytes) (ts : Bytes) {o u : Out} (h : OutSim o u)
    (hok : (finishWrite c st dims ts o).2.1 = .ok) :
    (finishWrite c st dims ts u).2.1 = .ok ∧
    (finishWrite c st dims ts o).2.2.bytes = (finishWrite c st dims ts u).2.2.bytes := by
  unfold finishWrite at hok ⊢
  simp only at hok ⊢
  cases hfail : (finishDims c ts (st.stringFieldsBuf.pushRaw (bytes! "}\n")).buf st.dimMap o false).2.1.failed with
  | true =>
    generalize finishDims c ts (st.stringFieldsBuf.pushRaw (bytes! "}\n")).buf st.dimMap o false = r at *
    obtain ⟨dm, o1, any⟩ := r
    simp only at hfail
    simp [hfail] at hok
  | false =>
    obtain ⟨h1, h2, h3⟩ := finishDims_sim c ts (st.stringFieldsBuf.pushRaw (bytes! "}\n")).buf st.dimMap h false hfail
    generalize finishDims c ts (st.stringFieldsBuf.pushRaw (bytes! "}\n")).buf st.dimMap o false = r at *
    generalize finishDims c ts (st.stringFieldsBuf.pushRaw (bytes! "}\n")).buf st.dimMap u false = r' at *
    obtain ⟨dm, o1, any⟩ := r
    obtain ⟨dm', u1, any'⟩ := r'
    simp only at hfail h1 h2 h3 hok ⊢
    subst h2 h3
    simp only [hfail, h1.2.1, Bool.false_eq_true, ↓reduceIte] at hok ⊢
    split
    · rename_i hg
      simp only [hg, ↓reduceIte] at hok
      exact finishGlobal_sim c _ dims h1 hok
    · exact ⟨rfl, h1.2.2.2⟩

theorem format_ok_unlimited (c : Consts) (s : State) (call : Call) (hok : (format c s call).2.1 = .ok) :
    (format c s { call with ioBudget := none }).2.1 = .ok ∧
    (format c s call).2.2.bytes = (format c s { call with ioBudget := none }).2.2.bytes := by
  unfold format at hok ⊢
  cases hb : call.badRate with
  | true => simp [hb] at hok
  | false =>
    simp only [hb, Bool.false_eq_true, ↓reduceIte] at hok ⊢
    unfold formatWithMultiplicity finish at hok ⊢
    simp only at hok ⊢
    split
    · rename_i he; simp [he] at hok
    · rename_i he
      simp only [he, Bool.false_eq_true, ↓reduceIte] at hok
      exact finishWrite_sim c _ _ _ (o := ⟨call.ioBudget, [], false⟩) (u := ⟨none, [], false⟩) ⟨rfl, rfl, rfl, rfl⟩ hok
end Emf
