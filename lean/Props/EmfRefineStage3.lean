import Props.EmfRefineSplitSpec
/-!
# Stage 3: every accepted entry, split records included

`emf_refines_spec_split`: the bytes the operational model writes are the lines of the declarative model's
records, in the order `emit` lists them (split records in dimension-set-map insertion order, then the
no-dimension record unless it is redundant).
-/
namespace EmfRefine
open JsonTree Json EmfSpec

variable {F : Type}

/-- the line of a record: its printed JSON tree and a newline -/
def lineOf (txt : F → List Nat) (nNs nowMs : Nat) (r : Record F) : List Nat :=
  print (recordJson txt nNs nowMs r) ++ [10]

theorem fieldBytes_str (txt : F → List Nat) (l : List (Str × Str)) :
    fieldBytes txt (l.map fun p => (p.1, MVal.str p.2)) = strBytes l := by
  simp [fieldBytes, strBytes, List.map_map, Function.comp_def, pm, mvalJson, print]

theorem nsDirective_print (ns : Str) (dims : List (List Str)) (decls : List Decl) :
    print (nsDirectiveJson ⟨ns, dims, decls⟩) =
      Emf.nsKey ++ (jstr ns ++ (Emf.dimensionsAfterNs ++ (sepBy [44] (dims.map jarrStrings) ++
        (Emf.metricsPrefix ++ (printElems (decls.map declJson) ++ bytes! "]}"))))) := by
  simp [nsDirectiveJson, print, printMembers, dimsJson, dimsJson_print, jstr_Namespace, jstr_Dimensions, jstr_Metrics,
    Emf.dimensionsAfterNs, Emf.metricsPrefix, Emf.nsKey]

theorem print_recordObj (dirs : List JVal) (lg : List (List Nat × JVal)) (ts : List Nat) (ms : List (List Nat × JVal)) :
    print (.obj ((bytes! "_aws", .obj (
        [(bytes! "CloudWatchMetrics", JVal.arr dirs)] ++ lg ++ [(bytes! "Timestamp", JVal.num ts)])) :: ms)) =
      Emf.awsHead ++ (printElems dirs ++ 93 :: ((lg.map fun m => 44 :: pm m).flatten ++
        (bytes! ",\"Timestamp\":" ++ (ts ++ 125 :: ((ms.map fun m => 44 :: pm m).flatten ++ [125]))))) := by
  simp [print, printMembers_cons, pm, jstr_aws, jstr_CWM, jstr_Timestamp, Emf.awsHead]

/-- the line of a record of `emit`, in the pieces the operational model assembles it from -/
theorem lineOf_mkRecord (cfg : Config) (sw : Switches) (ops : FloatOps F) (txt : F → List Nat) (mult : Option Nat)
    (nowMs : Nat) (e : Entry F) (hns : cfg.namespaces ≠ []) (route : Option Key) (ms : List (Str × Metric F))
    (extra : List Directive) :
    lineOf txt cfg.namespaces.length nowMs (mkRecord cfg ops mult e route ms extra) =
      recLine (Emf.Consts.ofConfig (toEmfCfg cfg sw))
        (sepBy [44] (((baseDims cfg e).map jarrStrings).map fun d => Emf.extendWithStrings d ((route.getD []).map (·.1))))
        (printElems ((declsOf ops mult ms).map declJson)) (Emf.extraDirectivesStr (extra.map toEmfExtra))
        (natDigits ((timestampOf e).getD nowMs))
        (strBytes (route.getD []) ++ (fieldBytes txt (fieldsOf ops mult ms) ++ strBytes (strItems e))) := by
  obtain ⟨ns0, more, hns⟩ := List.exists_cons_of_ne_nil hns
  simp only [lineOf, recordJson, mkRecord]
  rw [List.take_left' (by simp), List.drop_left' (by simp), print_recordObj, extras_eq_print]
  simp only [hns, List.map_cons, List.cons_append, printElems_cons, nsDirective_print, List.map_append, List.flatten_append,
    List.map_map, Function.comp_def, recLine, Emf.Consts.ofConfig, toEmfCfg, List.headD_cons, List.tail_cons,
    extendWithStrings_jarr, ← fieldBytes_str txt, fieldBytes]
  cases cfg.logGroup <;>
    simp [Emf.awsOpen_eq, Emf.nsOpen_eq, Emf.logGroupTsStr, pm, print, jstr_LGN, List.append_assoc]

/-- the declarative split records, from the list of keys -/
def splitRecs (cfg : Config) (ops : FloatOps F) (mult : Option Nat) (e : Entry F) (ks : List Key) : List (Record F) :=
  (ks.filter fun k => !(fieldsOf ops mult (Rk cfg k e)).isEmpty).map fun k =>
    mkRecord cfg ops mult e (some k) (Rk cfg k e) []

theorem emit_eq (cfg : Config) (ops : FloatOps F) (mult : Option Nat) (e : Entry F) :
    emit cfg ops mult e =
      splitRecs cfg ops mult e (splitKeys cfg e) ++
      (if ((splitRecs cfg ops mult e (splitKeys cfg e)).isEmpty || !(fieldsOf ops mult (routedTo cfg none (metricItems e))).isEmpty) = true
        then [mkRecord cfg ops mult e none (routedTo cfg none (metricItems e)) cfg.extra] else []) := by
  have h : ∀ ks : List Key, (ks.filterMap fun k =>
        if (fieldsOf ops mult (routedTo cfg (some k) (metricItems e))).isEmpty then none
        else some (mkRecord cfg ops mult e (some k) (routedTo cfg (some k) (metricItems e)) [])) =
      splitRecs cfg ops mult e ks := by
    intro ks
    induction ks with
    | nil => rfl
    | cons k ks ih =>
      rw [List.filterMap_cons, ih, splitRecs, splitRecs, List.filter_cons, Rk]
      cases (fieldsOf ops mult (routedTo cfg (some k) (metricItems e))).isEmpty <;> rfl
  unfold emit
  simp only [h]
  split <;> simp

theorem splitLines_eq (cfg : Config) (sw : Switches) (ops : FloatOps F) (txt : F → List Nat) (mult : Option Nat)
    (nowMs : Nat) (e : Entry F) (hns : cfg.namespaces ≠ []) (ks : List Key) :
    ((ks.map (newT cfg ops mult e)).filter fun t => !t.2.1.isEmpty).map
        (splitLine txt (Emf.Consts.ofConfig (toEmfCfg cfg sw)) ((baseDims cfg e).map jarrStrings)
          (natDigits ((timestampOf e).getD nowMs)) (strBytes (strItems e)))
      = (splitRecs cfg ops mult e ks).map (lineOf txt cfg.namespaces.length nowMs) := by
  rw [List.filter_map, List.map_map, splitRecs, List.map_map]
  exact List.map_congr_left fun k _ => (lineOf_mkRecord cfg sw ops txt mult nowMs e hns (some k) (Rk cfg k e) []).symm

theorem edAfter_start (cfg : Config) (sw : Switches) (e : Entry F) :
    (edAfter (Emf.Consts.ofConfig (toEmfCfg cfg sw)) none e).getD (Emf.Consts.ofConfig (toEmfCfg cfg sw)).eachDims
      = (baseDims cfg e).map jarrStrings := by
  simp only [edAfter, baseDims]
  cases entryDimsItems e with
  | nil => rfl
  | cons sets rest =>
    simp only [Option.getD_some, dimsOf, Emf.Consts.ofConfig, toEmfCfg, List.flatMap_map, List.map_flatMap, List.map_map,
      Function.comp_def, extendWithStrings_jarr]

theorem tsAfter_start (e : Entry F) (nowMs : Nat) :
    Emf.timestampMillis (tsAfter none e) nowMs = (timestampOf e).getD nowMs := by
  simp only [tsAfter, timestampOf]
  cases (timestamps e).getLast? with
  | none => rfl
  | some us =>
    cases us with
    | ofNat n => simp [Emf.timestampMillis, msOf]; rfl
    | negSucc n => simp [Emf.timestampMillis, msOf, Int.negSucc_lt_zero]; rfl

/-- **Stage 3.** For every configuration with at least one namespace, every switch setting, number type /
float operations / text function, multiplicity that fits a `u64` (or none), clock value and EVERY entry
accepted by `validate` — metrics with per-metric dimensions routed to split records included —: the
operational model on a fresh formatter returns `ok`, and the bytes it writes are exactly the lines
`print (recordJson r) ++ "\n"` of the declarative model's records
`emit cfg ops mult e`, IN THAT ORDER: the split records in the order their dimension sets were first used
(the operational model's dimension-set map keeps insertion order; the real hash map may visit them in any
order, `c14_map_order_irrelevant`), then the no-dimension record unless a split record was written and the
no-dimension record has no metric member. -/
theorem emf_refines_spec_split (cfg : Config) (sw : Switches) (ops : FloatOps F) (txt : F → List Nat)
    (mult : Option Nat) (nowMs : Nat) (e : Entry F)
    (hns : cfg.namespaces ≠ []) (hm : multOk mult) (hv : validate cfg sw e = []) :
    records cfg sw ops mult e = .ok (emit cfg ops mult e) ∧
    runEmf cfg sw ops txt mult nowMs e =
      (.ok, ((emit cfg ops mult e).map (lineOf txt cfg.namespaces.length nowMs)).flatten) := by
  refine ⟨by simp [records, hv], ?_⟩
  have hc := CRel.ofConfig cfg sw
  have hS0 : Shape3 txt (Emf.Consts.ofConfig (toEmfCfg cfg sw))
      (Emf.Writer.start (Emf.Consts.ofConfig (toEmfCfg cfg sw)) (Emf.State.fresh (toEmfCfg cfg sw))) [] [] []
      ([] : List (AEntry F)) :=
    ⟨rfl, List.nodup_nil, rfl, rfl, rfl, rfl⟩
  have herr : (run cfg sw (initState cfg sw) e).errs = [] := (List.append_eq_nil_iff.mp hv).1
  obtain ⟨hS, hR⟩ := shape3_foldl hc ops txt hm e (sim_start hc (Emf.State.fresh (toEmfCfg cfg sw))) hS0 herr
  have hfe := finishErrors_refines cfg sw ops txt (Emf.State.fresh (toEmfCfg cfg sw)) mult e
  rw [hv] at hfe
  have hfin := finish_split txt (toEmfCfg cfg sw) _ nowMs hS (hR.decl.trans (new_clear _)) hR.dbuf hfe
  unfold runEmf
  simp only [Emf.format, toCall, Bool.false_eq_true, if_false, Emf.formatWithMultiplicity]
  rw [hfin, hR.ed, hR.ts]
  simp only [Emf.Writer.start, edAfter_start, tsAfter_start]
  have hl := splitLines_eq cfg sw ops txt mult nowMs e hns (splitKeys cfg e)
  have hemp := congrArg List.isEmpty hl
  simp only [List.isEmpty_map] at hemp
  have hg := lineOf_mkRecord cfg sw ops txt mult nowMs e hns none (routedTo cfg none (metricItems e)) cfg.extra
  simp only [Option.getD_none, List.map_nil, extendWithStrings_jarr, List.map_map, Function.comp_def, List.append_nil,
    show strBytes [] = [] from rfl, List.nil_append] at hg
  simp only [List.nil_append, adFold_nil, hl, hemp, emit_eq, List.map_append, List.flatten_append, fieldBytes_isEmpty]
  split
  · simp only [List.map_cons, List.map_nil, List.flatten_cons, List.flatten_nil, List.append_nil, hg]; rfl
  · simp

end EmfRefine

#print axioms EmfRefine.emf_refines_spec_split
