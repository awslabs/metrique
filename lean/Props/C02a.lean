import Props.C14
import Props.C02Json
/-!
Lemmas for C02, part a: what `write_observation`, the observation loop, `write_metric_value` and
`write_metric` append to their buffers, in terms of the JSON fragment calculus.
-/
namespace Emf
open Json

/-! ### The float law: every float text supplied with an observation is a JSON number -/

def Obs.fmtOk : Obs → Bool
  | .unsigned _ => true
  | .floating none => true
  | .floating (some t) => isNumber (stripDotZero t)
  | .repeated none _ => true
  | .repeated (some t) _ => isNumber (stripDotZero t)

def Val.fmtOk : Val → Bool
  | .metric obs _ _ _ => obs.all Obs.fmtOk
  | _ => true

def Item.fmtOk : Item → Bool
  | .value _ v => v.fmtOk
  | _ => true

def Call.fmtOk (call : Call) : Bool := call.items.all Item.fmtOk

theorem obsText_isVal {mult : Option Nat} {o : Obs} (ho : o.fmtOk = true) {t : Bytes × Bytes}
    (h : obsText mult o = some t) : IsVal t.1 ∧ IsVal t.2 := by
  cases o with
  | unsigned v => cases h; exact ⟨IsVal.natDigits _, IsVal.natDigits _⟩
  | floating f =>
    cases f with
    | none => cases h
    | some s => cases h; exact ⟨IsVal.number ho, IsVal.natDigits _⟩
  | repeated f occ =>
    cases f with
    | none => cases h
    | some s => cases h; exact ⟨IsVal.number ho, IsVal.natDigits _⟩

theorem IsElems.commaList (ds : List Bytes) (h : ∀ d ∈ ds, IsVal d) : IsElems (ds.map (44 :: ·)).flatten := by
  induction ds with
  | nil => exact IsElems.nil
  | cons d rest ih =>
    simp only [List.map_cons, List.flatten_cons]
    exact (IsElems.one (h d (by simp))).append (ih fun x hx => h x (by simp [hx]))

theorem IsItems.commas {l : List Bytes} (h : ∀ x ∈ l, IsVal x) : IsItems (commas false l) := by
  cases l with
  | nil => exact IsItems.nil
  | cons x l => exact Or.inr ⟨x, _, rfl, h x (by simp), IsElems.commaList l fun d hd => h d (by simp [hd])⟩

theorem IsVal.valuesObj {V C : Bytes} (hV : IsItems V) (hC : IsItems C) : IsVal (valuesObj V C) :=
  Runs.append (Runs.append (Runs.append (Runs.append
    (Runs.open [] [.arr, .obj] (· = .valOrClose) fun _ => ⟨_, ⟨rfl, rfl⟩, rfl⟩)
    (hV.runs _))
    (Runs.closeArr [.obj] [.arr, .obj] (· = .valOrClose) fun _ => ⟨_, rfl, rfl⟩))
    (hC.runs _))
    (Runs.closeArr [.obj] [] Done fun _ => ⟨_, rfl, done_after⟩)

theorem IsVal.valuesText (mult : Option Nat) {obs : List Obs} (hok : ∀ o ∈ obs, o.fmtOk = true) :
    IsVal (valuesText mult obs) := by
  have h : ∀ t ∈ obs.filterMap (obsText mult), IsVal t.1 ∧ IsVal t.2 := fun t ht => by
    obtain ⟨o, ho, e⟩ := List.mem_filterMap.mp ht
    exact obsText_isVal (hok o ho) e
  refine IsVal.valuesObj (IsItems.commas fun x hx => ?_) (IsItems.commas fun x hx => ?_)
  · obtain ⟨t, ht, rfl⟩ := List.mem_map.mp hx; exact (h t ht).1
  · obtain ⟨t, ht, rfl⟩ := List.mem_map.mp hx; exact (h t ht).2

theorem writeMetricValue_spec (name : Bytes) (fields : PBuf) (first : Obs) (rest : List Obs)
    (hf : first.fmtOk = true) (hr : ∀ o ∈ rest, o.fmtOk = true) (mult : Option Nat) :
    (writeMetricValue name fields (PBuf.new countsPrefix) first rest mult).2.1 = PBuf.new countsPrefix ∧
    ((writeMetricValue name fields (PBuf.new countsPrefix) first rest mult).2.2 = true →
      ∃ x, (writeMetricValue name fields (PBuf.new countsPrefix) first rest mult).1 =
        ⟨fields.prefixLen, fields.buf ++ x⟩ ∧ IsMembers x) := by
  unfold writeMetricValue
  simp only
  split
  · rename_i v
    refine ⟨rfl, fun _ => ⟨44 :: (jstr name ++ 58 :: natDigits v), ?_, IsMembers.one (IsKey.jstr name) (IsVal.natDigits v)⟩⟩
    simp [PBuf.push, PBuf.jsonString, PBuf.pushRaw, PBuf.pushInt]
  · rename_i t
    refine ⟨rfl, fun _ => ⟨44 :: (jstr name ++ 58 :: stripDotZero t), ?_,
      IsMembers.one (IsKey.jstr name) (IsVal.number hf)⟩⟩
    simp [PBuf.push, PBuf.jsonString, PBuf.pushRaw]
  · exact ⟨rfl, fun h => by simp at h⟩
  · rw [writeValues_eq _ (PBuf.WF.new _)]
    refine ⟨rfl, fun _ => ⟨44 :: (jstr name ++ 58 :: valuesText mult (first :: rest)), ?_, IsMembers.one (IsKey.jstr name)
      (IsVal.valuesText mult fun o ho => ?_)⟩⟩
    · simp [PBuf.push, PBuf.jsonString, PBuf.pushRaw]
    · rcases List.mem_cons.mp ho with rfl | ho
      · exact hf
      · exact hr o ho

theorem IsVal.metricDecl (name : Bytes) (unit : Option Bytes) (flags : Flags) :
    IsVal (metricDecl name unit flags) := by
  have hu : Runs (match unit with
      | some u => bytes! ",\"Unit\":" ++ jstr u
      | none => []) [.obj] Done [.obj] Done := by
    cases unit with
    | none => exact IsMembers.nil
    | some u =>
      exact (Runs.close [.obj] [.obj] Ready fun _ => ⟨_, rfl, Or.inl rfl⟩).append ((IsVal.jstr u).runs _)
  have hf : Runs (match flags with
      | .highRes => bytes! ",\"StorageResolution\":1}"
      | _ => [125]) [.obj] Done [] Done := by
    cases flags with
    | highRes => exact Runs.close [.obj] [] Done fun _ => ⟨_, rfl, done_after⟩
    | none => exact Runs.close [.obj] [] Done fun _ => ⟨_, rfl, done_after⟩
    | noMetric => exact Runs.close [.obj] [] Done fun _ => ⟨_, rfl, done_after⟩
  exact Runs.append (Runs.append (Runs.append
    (Runs.open [] [.obj] Ready fun _ => ⟨_, ⟨rfl, rfl⟩, Or.inl rfl⟩)
    ((IsVal.jstr name).runs _))
    hu)
    hf

theorem writeMetric_spec (name : Bytes) (fields : PBuf) (mp M : Bytes) (hM : IsItems M) (obs : List Obs)
    (hok : ∀ o ∈ obs, o.fmtOk = true) (unit : Option Bytes) (flags : Flags) (mult : Option Nat) :
    (∃ x, (writeMetric name fields ⟨mp.length, mp ++ M⟩ (PBuf.new countsPrefix) obs unit flags mult).1 =
        ⟨fields.prefixLen, fields.buf ++ x⟩ ∧ IsMembers x) ∧
    (∃ M', (writeMetric name fields ⟨mp.length, mp ++ M⟩ (PBuf.new countsPrefix) obs unit flags mult).2.1 =
        ⟨mp.length, mp ++ M'⟩ ∧ IsItems M') ∧
    (writeMetric name fields ⟨mp.length, mp ++ M⟩ (PBuf.new countsPrefix) obs unit flags mult).2.2 =
      PBuf.new countsPrefix := by
  unfold writeMetric
  cases obs with
  | nil => exact ⟨⟨[], by simp, IsMembers.nil⟩, ⟨M, rfl, hM⟩, rfl⟩
  | cons first rest =>
    simp only
    obtain ⟨hc, hx⟩ := writeMetricValue_spec name fields first rest (hok first (by simp))
      (fun o ho => hok o (by simp [ho])) mult
    have hext := writeMetricValue_ext name fields (PBuf.WF.new countsPrefix) first rest mult
    generalize writeMetricValue name fields (PBuf.new countsPrefix) first rest mult = r at *
    obtain ⟨f', c', ok⟩ := r
    simp only at hc hx hext
    subst hc
    cases ok with
    | false =>
      simp only
      rw [hext.truncate]
      exact ⟨⟨[], by simp, IsMembers.nil⟩, ⟨M, rfl, hM⟩, trivial⟩
    | true =>
      obtain ⟨x, e, hxm⟩ := hx rfl
      subst e
      simp only
      cases flags with
      | noMetric => exact ⟨⟨x, rfl, hxm⟩, ⟨M, rfl, hM⟩, rfl⟩
      | none =>
        refine ⟨⟨x, rfl, hxm⟩, ⟨if M = [] then metricDecl name unit .none else M ++ 44 :: metricDecl name unit .none, ?_,
          hM.pushIf (IsVal.metricDecl name unit .none)⟩, rfl⟩
        by_cases hMe : M = []
        · subst hMe; simp [PBuf.isEmpty, PBuf.pushRaw]
        · simp [PBuf.isEmpty, PBuf.pushRaw, PBuf.push, hMe]
      | highRes =>
        refine ⟨⟨x, rfl, hxm⟩, ⟨if M = [] then metricDecl name unit .highRes else M ++ 44 :: metricDecl name unit .highRes, ?_,
          hM.pushIf (IsVal.metricDecl name unit .highRes)⟩, rfl⟩
        by_cases hMe : M = []
        · subst hMe; simp [PBuf.isEmpty, PBuf.pushRaw]
        · simp [PBuf.isEmpty, PBuf.pushRaw, PBuf.push, hMe]
end Emf
