import Props.EmfRefineStage3
/-!
# The operational EMF model refines the declarative one

`Model/Emf.lean` (byte-exact, properties C02 / C14) and `Model/EmfSpec.lean` (records and validation,
properties C03 / C08) were written independently from `emf.rs`. This file connects them in Lean; the
input correspondence (`toEmfCfg`, `toEmfEntry`, `toCall`) and the JSON denotation of a record
(`recordJson`) are in `Model/EmfRefine.lean`, the executable cross-check is driver engine `emfagree`.
-/
namespace EmfRefine
open EmfSpec

variable {F : Type}

/-- **Stage 1.** For every configuration, switch setting, number type
with its float operations and text function, every formatter state `s` (reachable or not), multiplicity
(or none), clock value, writer budget and entry: the operational `Emf.format` on the corresponding input
returns a validation error iff the declarative `EmfSpec.validate` reports at least one error, and then
the error kinds are THE SAME LIST (kind by kind, in the same order; the missing-dimension errors, which
the code reports in hash order, all have one kind). -/
theorem emf_refines_spec_validate (cfg : Config) (sw : Switches) (ops : FloatOps F) (txt : F → List Nat)
    (s : Emf.State) (mult : Option Nat) (nowMs : Nat) (io : Option Nat) (e : Entry F) :
    let r := (Emf.format (Emf.Consts.ofConfig (toEmfCfg cfg sw)) s
                ⟨toEmfEntry ops txt e, mult, false, nowMs, io⟩).2.1
    ((∃ ks, r = .validation ks) ↔ validate cfg sw e ≠ []) ∧
    (∀ ks, r = .validation ks → ks = (validate cfg sw e).map errKind) := by
  have hfe := finishErrors_refines cfg sw ops txt s mult e
  simp only [Emf.format, Bool.false_eq_true, if_false, Emf.formatWithMultiplicity, Emf.finish]
  rw [hfe]
  cases hv : validate cfg sw e with
  | nil =>
    simp only [List.map_nil, List.isEmpty_nil, Bool.not_true, Bool.false_eq_true, if_false, ne_eq,
      not_true_eq_false, iff_false, not_exists]
    refine ⟨fun ks => Emf.finishWrite_not_validation _ _ _ _ _ ks, fun ks h => ?_⟩
    exact absurd h (Emf.finishWrite_not_validation _ _ _ _ _ ks)
  | cons a l =>
    simp only [List.map_cons, List.isEmpty_cons, Bool.not_false, if_true, ne_eq, reduceCtorEq,
      not_false_eq_true, iff_true, Emf.Result.validation.injEq]
    exact ⟨⟨_, rfl⟩, fun ks h => h.symm⟩

/-- the same in the words of `records`: `records` is an error iff `format` is a validation error -/
theorem emf_refines_spec_class (cfg : Config) (sw : Switches) (ops : FloatOps F) (txt : F → List Nat)
    (s : Emf.State) (mult : Option Nat) (nowMs : Nat) (io : Option Nat) (e : Entry F) :
    let r := (Emf.format (Emf.Consts.ofConfig (toEmfCfg cfg sw)) s
                ⟨toEmfEntry ops txt e, mult, false, nowMs, io⟩).2.1
    (∀ errs, records cfg sw ops mult e = .error errs → r = .validation (errs.map errKind)) ∧
    (∀ rs, records cfg sw ops mult e = .ok rs → ∀ ks, r ≠ .validation ks) := by
  obtain ⟨h1, h2⟩ := emf_refines_spec_validate cfg sw ops txt s mult nowMs io e
  unfold records
  cases hv : validate cfg sw e with
  | nil => exact ⟨nofun, fun _ _ ks hk => h1.mp ⟨ks, hk⟩ hv⟩
  | cons a l =>
    obtain ⟨ks, hk⟩ := h1.mpr (hv ▸ List.cons_ne_nil a l)
    exact ⟨fun errs he => by cases he; rw [hk, h2 ks hk, hv], nofun⟩

/-- every metric of the entry goes to the no-dimension record -/
def noSplit (cfg : Config) (e : Entry F) : Bool :=
  (metricItems e).all fun p => cfg.allowIgnored || p.2.dims.isEmpty

/-- without split metrics the declarative model emits exactly one record: the no-dimension record with
every metric of the entry and the extra directives -/
theorem emit_noSplit (cfg : Config) (ops : FloatOps F) (mult : Option Nat) (e : Entry F)
    (h : noSplit cfg e = true) :
    emit cfg ops mult e = [mkRecord cfg ops mult e none (metricItems e) cfg.extra] := by
  have hro : ∀ p ∈ metricItems e, routeOf cfg p.2 = none := by
    intro p hp
    have := List.all_eq_true.mp h p hp
    simp [routeOf, this]
  have hk : splitKeys cfg e = [] := by
    unfold splitKeys
    have : (metricItems e).filterMap (fun p => routeOf cfg p.2) = [] := by
      rw [List.filterMap_eq_nil_iff]
      intro p hp; exact hro p hp
    rw [this]; rfl
  have hr : routedTo cfg none (metricItems e) = metricItems e := by
    unfold routedTo
    rw [List.filter_eq_self]
    intro p hp; simp [hro p hp]
  unfold emit
  simp [hk, hr]

open JsonTree in
/-- **Stage 2.** The case of `emf_refines_spec_split` (Stage 3) in which NO
metric is routed to a split record (`noSplit`: the configuration ignores per-metric dimensions, or every metric's
dimension list is empty): the operational model on a fresh formatter returns `ok` and writes exactly one line, and
that line is, byte for byte, the compact JSON print of the tree `recordJson` of the declarative model's single
record, followed by `\n`. So the line has the record's string members in order, the metric members in order (scalar
or `Values`/`Counts`, counts = occurrences saturating-times multiplicity), the same declarations in every
namespace's directive, the extra directives, the log group and the timestamp.

EXCLUDED (hence `_partial`): entries with a metric routed to a split record (covered by Stage 3);
extra directives with `StorageResolution` 60 (not expressible in `EmfSpec.Decl`);
a multiplicity above `u64::MAX` (no `u64` holds it, and the models differ there: the count of a single
observation is `m` in the one, `satMul 1 m` in the other);
a writer that fails (`ioBudget = none` here; C02 `format_ok_unlimited` relates a successful budgeted
write to the unlimited one). -/
theorem emf_refines_spec_global_partial (cfg : Config) (sw : Switches) (ops : FloatOps F) (txt : F → List Nat)
    (mult : Option Nat) (nowMs : Nat) (e : Entry F)
    (hns : cfg.namespaces ≠ []) (hm : multOk mult)
    (hsplit : noSplit cfg e = true) (hv : validate cfg sw e = []) :
    records cfg sw ops mult e = .ok [mkRecord cfg ops mult e none (metricItems e) cfg.extra] ∧
    runEmf cfg sw ops txt mult nowMs e =
      (.ok, print (recordJson txt cfg.namespaces.length nowMs
                    (mkRecord cfg ops mult e none (metricItems e) cfg.extra)) ++ [10]) := by
  have h := emf_refines_spec_split cfg sw ops txt mult nowMs e hns hm hv
  rw [emit_noSplit cfg ops mult e hsplit] at h
  simpa [lineOf] using h

/-- the same for a formatter with any history (C14) -/
theorem emf_refines_spec_global_reachable_partial (cfg : Config) (sw : Switches) (ops : FloatOps F) (txt : F → List Nat)
    (mult : Option Nat) (nowMs : Nat) (e : Entry F) {s : Emf.State} (hs : Emf.Reachable (toEmfCfg cfg sw) s)
    (hns : cfg.namespaces ≠ []) (hm : multOk mult)
    (hsplit : noSplit cfg e = true) (hv : validate cfg sw e = []) :
    let r := Emf.format (Emf.Consts.ofConfig (toEmfCfg cfg sw)) s (toCall ops txt mult nowMs e)
    r.2.1 = .ok ∧
    r.2.2.bytes = JsonTree.print (recordJson txt cfg.namespaces.length nowMs
                    (mkRecord cfg ops mult e none (metricItems e) cfg.extra)) ++ [10] := by
  simp only [Emf.c14_history_independent _ hs]
  exact Prod.mk.inj (emf_refines_spec_global_partial cfg sw ops txt mult nowMs e hns hm hsplit hv).2

section Examples
open Json

/-- default dimension `D`, one namespace -/
def exCfg : Config := { namespaces := [bytes! "Ns"], defaultDims := [[bytes! "D"]], logGroup := none,
                        allowIgnored := false, extra := [] }

/-- a rejected entry: the dimension `D` is written as a metric, `M` twice, no string for `D` -/
def exBad : Entry FText :=
  [.value (bytes! "D") (.metric ⟨[.unsigned 1], none, [], .plain⟩),
   .value (bytes! "M") (.metric ⟨[.unsigned 1], none, [], .plain⟩),
   .value (bytes! "M") (.metric ⟨[.floating (some (bytes! "2.5"))], none, [], .plain⟩)]

example : validate exCfg allOn exBad =
    [.metricInDimension (bytes! "D"), .duplicate (bytes! "M"), .missingDimension (bytes! "D")] := by decide

example : (runEmf exCfg allOn textOps textTxt none 0 exBad).1 =
    .validation [.metricInDimField, .duplicateField, .missingDimension] := by decide

example : (runEmf exCfg allOff textOps textTxt none 0 exBad).1 = .ok := by decide +kernel

/-- an accepted entry without split records: a timestamp, the dimension's string, a high-resolution
distribution (integer, float, zero-occurrence `Repeated`, NaN) and a plain counter; sampled ×2 -/
def exGood : Entry FText :=
  [.timestamp 1500000,
   .value (bytes! "D") (.str (bytes! "x\"y")),
   .value (bytes! "M") (.metric ⟨[.unsigned 1, .floating (some (bytes! "2.5")), .floating none,
                                  .repeated (some (bytes! "0.0")) 0], some (bytes! "Count"), [], .hires⟩),
   .value (bytes! "S") (.metric ⟨[.unsigned 7], none, [], .plain⟩)]

def exCfg2 : Config := { namespaces := [bytes! "Ns", bytes! "Ns2"], defaultDims := [[bytes! "D"]],
                         logGroup := some (bytes! "lg"), allowIgnored := false,
                         extra := [⟨bytes! "X", [[bytes! "E"]], [⟨bytes! "EM", some (bytes! "Count"), false⟩]⟩] }

example : validate exCfg2 allOn exGood = [] := by decide
example : noSplit exCfg2 exGood = true := by decide
example : exCfg2.namespaces ≠ [] := by decide
example : multOk (some 2) := by intro m h; cases h; decide
/-- the hypotheses are not vacuous, and the reader reads the operational line back as the record's tree -/
example : ((JsonTree.readLine (runEmf exCfg2 allOn textOps textTxt (some 2) 0 exGood).2).map fun t =>
    t == recordJson textTxt 2 0 (mkRecord exCfg2 textOps (some 2) exGood none (metricItems exGood) exCfg2.extra))
      = some true := by decide +kernel

end Examples

end EmfRefine

#print axioms EmfRefine.emf_refines_spec_validate
#print axioms EmfRefine.emf_refines_spec_class
#print axioms EmfRefine.emit_noSplit
#print axioms EmfRefine.emf_refines_spec_global_partial
#print axioms EmfRefine.emf_refines_spec_global_reachable_partial
