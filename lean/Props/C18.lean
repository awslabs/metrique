import Model.Timers
/-!
# C18 — timers and stopwatches report exactly the spans they were asked to measure

Theorems about `Model/Timers.lean` (model of `metrique/src/timers.rs` over a manually advanced time
source). All statements are for every operation sequence, of any length, with any clock advances.

The stopwatch theorems rest on one simulation relation, `Inv`, between the implementation model
(exclusive → shared representation switch, heap of mutex cells, live borrowed/owned guards with
`start`/`self_time`) and the specification's bookkeeping (when each guard started, how it ended):
closing reports `total` of that history, the sum of the kept spans since the last clear/overwrite.
-/
namespace Timers

theorem read_set {h : Heap} {c : Nat} {v : Option Nat} (hc : c < h.length) :
    Heap.read (h.set c v) c = v := by
  simp [Heap.read, List.getD_eq_getElem?_getD, hc]

theorem read_append_length (h : Heap) (d : Option Nat) :
    Heap.read (h ++ [d]) h.length = d := by
  simp [Heap.read, List.getD_eq_getElem?_getD]

/-- the logical content of the accumulated duration -/
def val : Rep → Heap → Option Nat
  | .exclusive d, _ => d
  | .shared c, h => Heap.read h c

def Alloc : Rep → Heap → Prop
  | .exclusive _, h => h = []
  | .shared c, h => c = 0 ∧ h.length = 1

theorem val_add {r : Rep} {h : Heap} (t : Nat) (ha : Alloc r h) :
    val (r.add h t).1 (r.add h t).2 = some ((val r h).getD 0 + t) ∧ Alloc (r.add h t).1 (r.add h t).2 ∧
      (∀ c, r = .shared c → (r.add h t).1 = .shared c) := by
  cases r with
  | exclusive d => simp_all [Rep.add, val, Alloc]
  | shared c =>
    obtain ⟨rfl, hl⟩ := ha
    simp [Rep.add, val, Alloc, hl, read_set]

theorem val_take {r : Rep} {h : Heap} (ha : Alloc r h) :
    val (r.take h).2.1 (r.take h).2.2 = none ∧ Alloc (r.take h).2.1 (r.take h).2.2 ∧
      (∀ c, r = .shared c → (r.take h).2.1 = .shared c) := by
  cases r with
  | exclusive d => simp_all [Rep.take, val, Alloc]
  | shared c =>
    obtain ⟨rfl, hl⟩ := ha
    simp [Rep.take, val, Alloc, hl, read_set]

theorem val_sharedCloned {r : Rep} {h : Heap} (ha : Alloc r h) :
    let x := r.sharedCloned h
    x.1 = 0 ∧ x.2.1 = .shared 0 ∧ val x.2.1 x.2.2 = val r h ∧ Alloc x.2.1 x.2.2 := by
  cases r with
  | exclusive d =>
    subst ha
    simp [Rep.sharedCloned, val, Alloc, Heap.read]
  | shared c => simp_all [Rep.sharedCloned, val, Alloc]

/-! ## guards between operations are always `{ start := some t, self_time := none }` -/

def fresh (t : Nat) : Guard := { start := some t, selfTime := none }

theorem drop_fresh (t now : Nat) (r : Rep) (h : Heap) :
    (fresh t).drop now r h = r.add h (now - t) := by
  simp [fresh, Guard.drop, Guard.stopRef]

theorem stop_fresh (t now : Nat) (r : Rep) (h : Heap) :
    (fresh t).stop now r h = (some (now - t), r.add h (now - t)) := by
  simp [fresh, Guard.stop, Guard.drop, Guard.stopRef]

theorem overwrite_fresh (t now : Nat) (r : Rep) (h : Heap) :
    (fresh t).overwrite now r h = (r.take h).2.1.add (r.take h).2.2 (now - t) := by
  simp [fresh, Guard.overwrite, Guard.drop, Guard.stopRef]

theorem discard_any (g : Guard) (now : Nat) (r : Rep) (h : Heap) :
    g.discard now r h = (r, h) := by
  simp [Guard.discard, Guard.drop, Guard.stopRef]

structure Inv (i : Impl) (sp : Spec) : Prop where
  now : i.now = sp.now
  start : i.start = none
  alloc : Alloc i.rep i.heap
  value : val i.rep i.heap = total sp.events
  borrowed : i.borrowed = sp.bStart.map fresh
  owned : ∀ k, (∀ t, sp.oStart k = some t → i.rep = .shared 0 ∧ i.owned k = some ⟨fresh t, 0⟩) ∧
    (sp.oStart k = none → i.owned k = none)

theorem inv_init : Inv Impl.init Spec.init := by
  constructor <;> simp [Impl.init, Spec.init, Alloc, val, total]

theorem Inv.owned_eq {i : Impl} {sp : Spec} (h : Inv i sp) (k : Nat) :
    i.owned k = (sp.oStart k).map fun t => ⟨fresh t, 0⟩ := by
  cases hok : sp.oStart k with
  | none => exact (h.owned k).2 hok
  | some t => exact ((h.owned k).1 t hok).2

theorem Inv.close_eq {i : Impl} {sp : Spec} (h : Inv i sp) : i.close = sp.close := by
  have hv := h.value
  unfold Impl.close Spec.close
  rw [← hv, h.start]
  cases i.rep with
  | exclusive d => cases d <;> rfl
  | shared c => rfl

theorem Inv.update {i : Impl} {sp : Spec} (h : Inv i sp) {r' : Rep} {h' : Heap} {evs' : List Ev}
    {b' : Option Guard} {bs' : Option Nat}
    (ha : Alloc r' h') (hv : val r' h' = total evs') (hsh : i.rep = .shared 0 → r' = .shared 0)
    (hb : b' = bs'.map fresh) :
    Inv { i with rep := r', heap := h', borrowed := b' } { sp with bStart := bs', events := evs' } :=
  ⟨h.now, h.start, ha, hv, hb, fun k =>
    ⟨fun t ht => ⟨hsh ((h.owned k).1 t ht).1, ((h.owned k).1 t ht).2⟩, (h.owned k).2⟩⟩

theorem Inv.setOwned {i : Impl} {sp : Spec} (h : Inv i sp) (k : Nat) (t : Option Nat)
    (hr : t.isSome → i.rep = .shared 0) :
    Inv (i.setOwned k (t.map fun t => ⟨fresh t, 0⟩))
      { sp with oStart := fun j => if j = k then t else sp.oStart j } := by
  refine ⟨h.now, h.start, h.alloc, h.value, h.borrowed, fun j => ?_⟩
  by_cases hj : j = k
  · subst hj
    simp only [Impl.setOwned, if_true]
    exact ⟨fun t' ht => ⟨hr (ht ▸ rfl), ht ▸ rfl⟩, fun ht => ht ▸ rfl⟩
  · simpa only [Impl.setOwned, if_neg hj] using h.owned j

/-- `F`, a way for a guard to end (`drop`, `stop`, `discard`, `overwrite`), is recorded in the history
by the event `ev`. -/
def Ends (F : Guard → Nat → Rep → Heap → Rep × Heap) (ev : Nat → Ev) : Prop :=
  ∀ (t now : Nat) (r : Rep) (h : Heap) (es : List Ev), Alloc r h → val r h = total es →
    Alloc (F (fresh t) now r h).1 (F (fresh t) now r h).2 ∧
    val (F (fresh t) now r h).1 (F (fresh t) now r h).2 = total (ev (now - t) :: es) ∧
    ∀ c, r = .shared c → (F (fresh t) now r h).1 = .shared c

theorem ends_drop : Ends Guard.drop .kept := by
  intro t now r h es ha hv
  obtain ⟨h1, h2, h3⟩ := val_add (now - t) ha
  rw [drop_fresh]
  exact ⟨h2, by rw [h1, hv, total, Nat.add_comm], h3⟩

theorem ends_stop : Ends (fun g now r h => (g.stop now r h).2) .kept := by
  intro t now r h es ha hv
  simpa only [stop_fresh, drop_fresh] using ends_drop t now r h es ha hv

theorem ends_discard : Ends Guard.discard .discarded := by
  intro t now r h es ha hv
  rw [discard_any]
  exact ⟨ha, hv, fun _ hc => hc⟩

theorem ends_overwrite : Ends Guard.overwrite .overwrote := by
  intro t now r h es ha hv
  obtain ⟨t1, t2, t3⟩ := val_take ha
  obtain ⟨h1, h2, h3⟩ := val_add (now - t) t2
  rw [overwrite_fresh]
  exact ⟨h2, by rw [h1, t1, total, Option.getD_none, Nat.zero_add], fun c hc => h3 c (t3 c hc)⟩

theorem endB_some {sp : Spec} {t : Nat} (ev : Nat → Ev) (h : sp.bStart = some t) :
    sp.endB ev = { sp with bStart := none, events := ev (sp.now - t) :: sp.events } := by
  simp only [Spec.endB, h]

theorem endO_some {sp : Spec} {k t : Nat} (ev : Nat → Ev) (h : sp.oStart k = some t) :
    sp.endO k ev = { sp with oStart := (fun j => if j = k then none else sp.oStart j),
                             events := ev (sp.now - t) :: sp.events } := by
  simp only [Spec.endO, h]

/-- `hs` has the shape of `Impl.step` on `stopB`, `dropB`, `discardB`, `overwriteB` -/
theorem Inv.endB {i i' : Impl} {sp : Spec} (h : Inv i sp) {F : Guard → Nat → Rep → Heap → Rep × Heap}
    {ev : Nat → Ev} (hF : Ends F ev)
    (hs : (i.borrowed.map fun g =>
      { i with rep := (F g i.now i.rep i.heap).1, heap := (F g i.now i.rep i.heap).2, borrowed := none }) = some i') :
    Inv i' (sp.endB ev) := by
  rw [h.borrowed] at hs
  cases hbs : sp.bStart <;> rw [hbs] at hs <;> cases hs
  rename_i t
  rw [endB_some ev hbs]
  obtain ⟨a1, a2, a3⟩ := hF t i.now i.rep i.heap sp.events h.alloc h.value
  exact h.now ▸ h.update (bs' := none) a1 (h.now ▸ a2) (a3 0) rfl

/-- `hs` has the shape of `Impl.step` on `stopO k`, `dropO k`, `discardO k`, `overwriteO k` -/
theorem Inv.endO {i i' : Impl} {sp : Spec} (h : Inv i sp) {F : Guard → Nat → Rep → Heap → Rep × Heap}
    {ev : Nat → Ev} (hF : Ends F ev) (k : Nat)
    (hs : ((i.owned k).map fun og =>
      { i with heap := (F og.g i.now (.shared og.cell) i.heap).2 }.setOwned k none) = some i') :
    Inv i' (sp.endO k ev) := by
  rw [h.owned_eq] at hs
  cases hok : sp.oStart k <;> rw [hok] at hs <;> cases hs
  rename_i t
  rw [endO_some ev hok]
  -- the guard writes through `.shared 0`, which is the stopwatch's own representation
  obtain ⟨n, st, r, hp, b, o⟩ := i
  cases ((h.owned k).1 t hok).1
  have hn : n = sp.now := h.now
  obtain ⟨a1, a2, a3⟩ := hF t n (.shared 0) hp sp.events h.alloc h.value
  rw [a3 0 rfl] at a1 a2
  exact (h.update (evs' := ev (sp.now - t) :: sp.events) a1 (by rw [← hn]; exact a2) (fun _ => rfl)
    h.borrowed).setOwned k none Bool.noConfusion

theorem inv_step {i i' : Impl} {sp : Spec} {op : Op} (h : Inv i sp) (hs : i.step op = some i') :
    Inv i' (sp.step op) := by
  have hb := h.borrowed
  cases op with
  | stopB => exact h.endB ends_stop hs
  | dropB u => exact h.endB ends_drop hs
  | discardB => exact h.endB ends_discard hs
  | overwriteB => exact h.endB ends_overwrite hs
  | stopO k => exact h.endO ends_stop k hs
  | dropO k u => exact h.endO ends_drop k hs
  | discardO k => exact h.endO ends_discard k hs
  | overwriteO k => exact h.endO ends_overwrite k hs
  | advance d =>
    cases hs
    exact ⟨congrArg (· + d) h.now, h.start, h.alloc, h.value, hb, h.owned⟩
  | startB =>
    rw [Impl.step, hb] at hs
    cases hbs : sp.bStart <;> simp only [hbs, Option.map, reduceCtorEq] at hs
    cases hs
    exact h.update (bs' := some sp.now) h.alloc h.value id (h.now ▸ rfl)
  | startO k =>
    rw [Impl.step, hb, h.owned_eq] at hs
    cases hbs : sp.bStart <;> cases hok : sp.oStart k <;> simp only [hbs, hok, Option.map, reduceCtorEq] at hs
    cases hs
    obtain ⟨c0, c1, c2, c3⟩ := val_sharedCloned h.alloc
    have h1 := h.update (b' := none) (bs' := sp.bStart) (evs' := sp.events) c3 (c2.trans h.value)
      (fun _ => c1) (by rw [hbs]; rfl)
    simpa only [Spec.step, c0, fresh, h.now, Option.map_some] using h1.setOwned k (some sp.now) fun _ => c1
  | clear =>
    rw [Impl.step, hb] at hs
    cases hbs : sp.bStart <;> simp only [hbs, Option.map, reduceCtorEq] at hs
    cases hs
    obtain ⟨t1, t2, t3⟩ := val_take h.alloc
    have h1 := h.update (b' := none) (bs' := sp.bStart) (evs' := .cleared :: sp.events) t2 t1 (t3 0)
      (by rw [hbs]; rfl)
    exact ⟨h1.now, rfl, h1.alloc, h1.value, h1.borrowed, h1.owned⟩

theorem inv_run {ops : List Op} {i i' : Impl} {sp : Spec} (h : Inv i sp) (hr : i.run ops = some i') :
    Inv i' (sp.run ops) := by
  induction ops generalizing i sp with
  | nil => cases hr; exact h
  | cons op ops ih =>
    obtain ⟨i1, hs, hr⟩ := Option.bind_eq_some_iff.mp hr
    exact ih (inv_step h hs) hr

/-- **Refinement.** For every operation sequence the implementation model accepts (every sequence
expressible in Rust; a guard drop may be a normal one or one by a contained unwinding panic — the
`unwinding` flag of `dropB`/`dropO`, ignored by the model, see `c18_unwinding_drop_is_a_drop`), of any
length, with any clock advances, any mix of borrowed and owned guards and any number of concurrently
live owned guards: closing the stopwatch reports exactly the total of the completed, non-discarded
guard spans since the last clear/overwrite, and `none` if there is none. -/
theorem c18_stopwatch_refines (ops : List Op) (s : Impl) (h : Impl.init.run ops = some s) :
    s.close = (Spec.init.run ops).close :=
  (inv_run inv_init h).close_eq

/-- forget how a guard came to be dropped -/
def Op.normalDrop : Op → Op
  | .dropB _ => .dropB false
  | .dropO k _ => .dropO k false
  | op => op

theorem step_normalDrop (s : Impl) (op : Op) : s.step op.normalDrop = s.step op := by
  cases op <;> rfl

theorem spec_step_normalDrop (sp : Spec) (op : Op) : sp.step op.normalDrop = sp.step op := by
  cases op <;> rfl

theorem impl_run_normalDrop (ops : List Op) (s : Impl) : s.run (ops.map Op.normalDrop) = s.run ops := by
  induction ops generalizing s with
  | nil => rfl
  | cons op ops ih => simp only [List.map_cons, Impl.run, step_normalDrop, ih]

/-- **Unwinding is irrelevant (part of the refinement).** `c18_stopwatch_refines` quantifies over
sequences in which any guard drop may be one caused by a contained unwinding panic (`catch_unwind` on
the same thread, a thread that panics while owning the guard): both the implementation model — a
transcription of `Drop`, which does not consult `std::thread::panicking()` — and the specification treat
it as a drop. Hence for every sequence: the implementation model accepts it exactly when it accepts
the sequence with every drop made a normal one, and then reaches the very same state, and its report is
the specification's total in which the spans of guards dropped by unwinding count as completed, kept
spans. -/
theorem c18_unwinding_drop_is_a_drop (ops : List Op) :
    Impl.init.run ops = Impl.init.run (ops.map Op.normalDrop) ∧
    Spec.init.run ops = Spec.init.run (ops.map Op.normalDrop) ∧
    ∀ s, Impl.init.run ops = some s → s.close = (Spec.init.run (ops.map Op.normalDrop)).close := by
  have h2 : Spec.init.run (ops.map Op.normalDrop) = Spec.init.run ops := by
    simp only [Spec.run, List.foldl_map, spec_step_normalDrop]
  exact ⟨(impl_run_normalDrop ops _).symm, h2.symm, fun s hs => h2 ▸ c18_stopwatch_refines ops s hs⟩

/-- A variant of the implementation model in which `Drop` returns early while the thread is
panicking (`if std::thread::panicking() { return; }`): the guard goes away, its span is never added. -/
def Impl.stepSkipUnwinding (s : Impl) : Op → Option Impl
  | .dropB true => s.borrowed.map fun _ => { s with borrowed := none }
  | .dropO k true => (s.owned k).map fun _ => s.setOwned k none
  | op => s.step op

def Impl.runSkipUnwinding (s : Impl) : List Op → Option Impl
  | [] => some s
  | op :: ops => (s.stepSkipUnwinding op).bind fun s' => s'.runSkipUnwinding ops

/-- **Decided witness**: that variant violates the refinement — an owned guard that measured 5 and is
dropped by unwinding leaves the report at `none` (specification: `some 5`); after an earlier kept
span of 2 the total is too small (2 instead of 7); same for a borrowed guard. -/
example :
    (Impl.init.runSkipUnwinding [.startO 0, .advance 5, .dropO 0 true]).map Impl.close = some none ∧
    (Spec.init.run [.startO 0, .advance 5, .dropO 0 true]).close = some 5 ∧
    (Impl.init.run [.startO 0, .advance 5, .dropO 0 true]).map Impl.close = some (some 5) ∧
    (Impl.init.runSkipUnwinding [.startB, .advance 2, .stopB, .startO 1, .advance 5, .dropO 1 true]).map Impl.close
      = some (some 2) ∧
    (Spec.init.run [.startB, .advance 2, .stopB, .startO 1, .advance 5, .dropO 1 true]).close = some 7 ∧
    (Impl.init.runSkipUnwinding [.startB, .advance 4, .dropB true]).map Impl.close = some none ∧
    (Spec.init.run [.startB, .advance 4, .dropB true]).close = some 4 := by
  decide

/-- the spans that count: stopped/dropped guards and overwriting guards -/
def keptSpans : List Ev → List Nat
  | [] => []
  | .kept d :: es => d :: keptSpans es
  | .overwrote d :: es => d :: keptSpans es
  | _ :: es => keptSpans es

def Ev.isReset : Ev → Bool
  | .cleared | .overwrote _ => true
  | _ => false

def sumOrNone (l : List Nat) : Option Nat := if l = [] then none else some l.sum

theorem total_append (recent older : List Ev) (h : ∀ e ∈ recent, e.isReset = false) :
    total (recent ++ older) =
      if keptSpans recent = [] then total older
      else some ((keptSpans recent).sum + (total older).getD 0) := by
  induction recent with
  | nil => rfl
  | cons e es ih =>
    have ih := ih fun e he => h e (List.mem_cons_of_mem _ he)
    cases e with
    | kept d =>
      simp only [List.cons_append, total, keptSpans, ih, List.sum_cons, reduceCtorEq, if_false]
      split <;> simp [*, Nat.add_assoc]
    | discarded d => exact ih
    | cleared | overwrote d => exact Bool.noConfusion (h _ (List.mem_cons_self ..))

/-- **What the specification says, declaratively** (history newest first, `recent` = the events after
the last clear/overwrite): with no earlier reset, or after a clear, the report is the sum of the kept
spans of `recent`, absent if there is none; after an overwrite by a guard that measured `d`, it is `d`
plus the kept spans since. Discarded spans never count; nothing before the reset counts. -/
theorem c18_spec_total_sum (recent older : List Ev) (h : ∀ e ∈ recent, e.isReset = false) :
    total recent = sumOrNone (keptSpans recent) ∧
    total (recent ++ .cleared :: older) = sumOrNone (keptSpans recent) ∧
    ∀ d, total (recent ++ .overwrote d :: older) = some ((keptSpans recent).sum + d) := by
  have h0 := total_append recent [] h
  refine ⟨?_, ?_, fun d => ?_⟩
  · rw [List.append_nil] at h0; rw [h0]; simp [sumOrNone, total]
  · rw [total_append recent _ h]; simp [sumOrNone, total]
  · rw [total_append recent _ h]; split <;> simp [*, total]

def Spec.stoppedStart (sp : Spec) : Op → Option Nat
  | .stopB => sp.bStart
  | .stopO k => sp.oStart k
  | _ => none

/-- **`stop()` returns the guard's own span and never panics**: after any accepted prefix, a stop
operation on a live guard returns `now - (the time that guard was started)`; the `unwrap` in `stop`
never sees `None`. -/
theorem c18_stop_returns_span (pre : List Op) (s : Impl) (op : Op) (h : Impl.init.run pre = some s)
    (r : Option Nat) (hr : s.ret op = some r) :
    ∃ t, (Spec.init.run pre).stoppedStart op = some t ∧ r = some (s.now - t) := by
  have inv := inv_run inv_init h
  generalize Spec.init.run pre = sp at inv
  cases op <;>
    simp only [Impl.ret, reduceCtorEq, inv.borrowed, inv.owned_eq, Option.map_map, Option.map_eq_some_iff] at hr
  all_goals
    obtain ⟨t, ht, rfl⟩ := hr
    exact ⟨t, ht, congrArg Prod.fst (stop_fresh ..)⟩

/-- **One cell, one switch.** In every reachable state `Stopwatch::start` is `None` (the third arm of
`close` never reports an elapsed time), at most one cell has been allocated, and every live owned
guard points at the cell the (then shared) stopwatch owns: the representation switches at most once
and no guard can write anywhere else. -/
theorem c18_single_cell (ops : List Op) (s : Impl) (h : Impl.init.run ops = some s) :
    s.start = none ∧ s.heap.length ≤ 1 ∧
    (∀ k og, s.owned k = some og → s.rep = .shared og.cell ∧ og.cell < s.heap.length) := by
  have inv := inv_run inv_init h
  have ha := inv.alloc
  refine ⟨inv.start, ?_, fun k og hk => ?_⟩
  · cases hr : s.rep <;> simp_all [Alloc]
  · obtain ⟨t, hok, rfl⟩ := Option.map_eq_some_iff.mp (inv.owned_eq k ▸ hk)
    rw [((inv.owned k).1 t hok).1] at ha ⊢
    exact ⟨rfl, by simp [ha.2]⟩

def Spec.expressible (sp : Spec) : Op → Bool
  | .advance _ => true
  | .startB | .clear => sp.bStart.isNone
  | .stopB | .dropB _ | .discardB | .overwriteB => sp.bStart.isSome
  | .startO k => sp.bStart.isNone && (sp.oStart k).isNone
  | .stopO k | .dropO k _ | .discardO k | .overwriteO k => (sp.oStart k).isSome

/-- **Exactly the expressible operations are accepted**: after any accepted prefix the implementation
model accepts an operation iff no `TimerGuard` borrows the stopwatch when it needs `&mut` access, the
guard it names is live, and an owned slot is free — so the hypothesis of `c18_stopwatch_refines` is
the Rust borrow discipline and nothing more. -/
theorem c18_expressible (pre : List Op) (s : Impl) (op : Op) (h : Impl.init.run pre = some s) :
    (s.step op).isSome = (Spec.init.run pre).expressible op := by
  have inv := inv_run inv_init h
  generalize Spec.init.run pre = sp at inv
  cases op <;> simp only [Impl.step, Spec.expressible, inv.borrowed, inv.owned_eq, Option.isSome_map]
  case startO k => cases sp.bStart <;> cases sp.oStart k <;> rfl
  all_goals cases sp.bStart <;> rfl

theorem total_append_congr {ea eb : List Ev} (h : total ea = total eb) (ys : List Ev) :
    total (ys ++ ea) = total (ys ++ eb) := by
  induction ys with
  | nil => exact h
  | cons y ys ih => cases y <;> simp only [List.cons_append, total, ih]

/-- two specification states that no later observation can tell apart -/
def SpecEq (a b : Spec) : Prop :=
  a.now = b.now ∧ a.bStart = b.bStart ∧ a.oStart = b.oStart ∧ total a.events = total b.events

theorem SpecEq.endB {a b : Spec} (h : SpecEq a b) (ev : Nat → Ev) : SpecEq (a.endB ev) (b.endB ev) := by
  obtain ⟨h1, h2, h3, h4⟩ := h
  unfold Spec.endB
  rw [h2, h1]
  cases b.bStart with
  | none => exact ⟨h1, h2, h3, h4⟩
  | some t => exact ⟨rfl, rfl, h3, total_append_congr h4 [_]⟩

theorem SpecEq.endO {a b : Spec} (h : SpecEq a b) (k : Nat) (ev : Nat → Ev) :
    SpecEq (a.endO k ev) (b.endO k ev) := by
  obtain ⟨h1, h2, h3, h4⟩ := h
  unfold Spec.endO
  rw [h3, h1]
  cases b.oStart k with
  | none => exact ⟨h1, h2, h3, h4⟩
  | some t => exact ⟨rfl, h2, rfl, total_append_congr h4 [_]⟩

theorem SpecEq.step {a b : Spec} (h : SpecEq a b) (op : Op) : SpecEq (a.step op) (b.step op) := by
  cases op
  case stopB | dropB | discardB | overwriteB => exact h.endB _
  case stopO | dropO | discardO | overwriteO => exact h.endO _ _
  case advance d => exact ⟨congrArg (· + d) h.1, h.2.1, h.2.2.1, h.2.2.2⟩
  case startB => exact ⟨h.1, congrArg some h.1, h.2.2.1, h.2.2.2⟩
  case startO k => exact ⟨h.1, h.2.1, by simp only [Spec.step, h.1, h.2.2.1], h.2.2.2⟩
  case clear => exact ⟨h.1, h.2.1, h.2.2.1, total_append_congr h.2.2.2 [_]⟩

theorem SpecEq.run {a b : Spec} (h : SpecEq a b) (ops : List Op) : SpecEq (a.run ops) (b.run ops) := by
  induction ops generalizing a b with
  | nil => exact h
  | cons op ops ih => exact ih (h.step op)

/-- ends of a guard that only add (or drop) its own span: stop, drop, discard — not overwrite -/
def Ev.additive : (Nat → Ev) → Prop := fun ev => ev = Ev.kept ∨ ev = Ev.discarded

theorem total_swap (e1 e2 : Nat → Ev) (h1 : Ev.additive e1) (h2 : Ev.additive e2) (d1 d2 : Nat)
    (es : List Ev) : total (e1 d1 :: e2 d2 :: es) = total (e2 d2 :: e1 d1 :: es) := by
  rcases h1 with rfl | rfl <;> rcases h2 with rfl | rfl <;> simp only [total, Option.getD_some] <;>
    rw [Nat.add_left_comm]

theorem endO_swap (sp : Spec) (k j : Nat) (hkj : k ≠ j) (e1 e2 : Nat → Ev) (h1 : Ev.additive e1)
    (h2 : Ev.additive e2) : SpecEq ((sp.endO k e1).endO j e2) ((sp.endO j e2).endO k e1) := by
  have hjk : j ≠ k := fun h => hkj h.symm
  cases hk : sp.oStart k <;> cases hj : sp.oStart j <;>
    simp only [Spec.endO, hk, hj, if_neg hkj, if_neg hjk]
  case some.some =>
    refine ⟨rfl, rfl, ?_, total_swap e2 e1 h2 h1 _ _ _⟩
    funext x
    by_cases hxk : x = k <;> by_cases hxj : x = j <;> simp [hxk, hxj]
  all_goals exact ⟨rfl, rfl, rfl, rfl⟩

def Op.finishes (k : Nat) (op : Op) : Prop :=
  op = .stopO k ∨ (∃ u, op = .dropO k u) ∨ op = .discardO k

theorem Op.finishes.endO {k : Nat} {op : Op} (h : op.finishes k) :
    ∃ ev, Ev.additive ev ∧ ∀ sp : Spec, sp.step op = sp.endO k ev := by
  rcases h with rfl | ⟨_, rfl⟩ | rfl
  · exact ⟨.kept, .inl rfl, fun _ => rfl⟩
  · exact ⟨.kept, .inl rfl, fun _ => rfl⟩
  · exact ⟨.discarded, .inr rfl, fun _ => rfl⟩

/-- **Finishing several owned guards without the clock moving in between — e.g. on different threads
at once, each under the mutex — gives the same reports in either order**, now and after any further
operations: stop/drop/discard of guards in different slots commute (overwrite does not: it resets). -/
theorem c18_finish_order_irrelevant (pre post : List Op) (k j : Nat) (hkj : k ≠ j) (a b : Op)
    (ha : a.finishes k) (hb : b.finishes j) (s1 s2 : Impl)
    (h1 : Impl.init.run (pre ++ a :: b :: post) = some s1)
    (h2 : Impl.init.run (pre ++ b :: a :: post) = some s2) : s1.close = s2.close := by
  rw [c18_stopwatch_refines _ _ h1, c18_stopwatch_refines _ _ h2]
  obtain ⟨ea, ha1, ha2⟩ := ha.endO
  obtain ⟨eb, hb1, hb2⟩ := hb.endO
  have key : SpecEq ((Spec.init.run pre).step a |>.step b) ((Spec.init.run pre).step b |>.step a) := by
    rw [ha2, hb2, hb2, ha2]; exact endO_swap _ k j hkj _ _ ha1 hb1
  simpa only [Spec.run, Spec.close, List.foldl_append, List.foldl_cons] using (key.run post).2.2.2

theorem TState.run_cons (s : TState) (op : TOp) (ops : List TOp) :
    s.run (op :: ops) = (s.step op).run ops := rfl

theorem timer_run_stopped (ops : List TOp) (s : TState) (d : Nat) (h : s.timer.duration = some d) :
    (s.run ops).timer.duration = some d := by
  induction ops generalizing s with
  | nil => exact h
  | cons op ops ih => exact ih _ (by cases op <;> simp [TState.step, Timer.stop, h])

theorem step_stop_duration (s : TState) :
    (s.step .stop).timer.duration = some (s.timer.stop s.now).1 := by
  cases hd : s.timer.duration <;> simp [TState.step, Timer.stop, hd]

theorem timer_run_running (ops : List TOp) (s : TState) (h : s.timer.duration = none)
    (hs : s.timer.start ≤ s.now) :
    (s.run ops).close = (s.now - s.timer.start) + timerSpec ops := by
  induction ops generalizing s with
  | nil => simp [TState.run, TState.close, Timer.close, h, timerSpec]
  | cons op ops ih =>
    rw [TState.run_cons]
    cases op with
    | advance d =>
      rw [ih (s.step (.advance d)) h (Nat.le_add_right_of_le hs)]
      simp only [TState.step, timerSpec]; omega
    | stop =>
      rw [TState.close, Timer.close, timer_run_stopped ops _ _ (step_stop_duration s)]
      simp only [Timer.stop, h, timerSpec, Option.getD_some, Nat.add_zero]

/-- **Timer**: for every sequence of clock advances and stops after creation, closing the timer
reports the time from its creation to its first stop, or to the close if it was never stopped. -/
theorem c18_timer (n : Nat) (ops : List TOp) : ((TState.init n).run ops).close = timerSpec ops := by
  have := timer_run_running ops (TState.init n) rfl (Nat.le_refl _)
  simpa [TState.init] using this

/-- **Repeated stops change nothing, and every stop returns the reported value**: the value returned by
any `stop()` — first or repeated — equals what the timer reports when closed at any later time
(whatever advances and further stops come in between). -/
theorem c18_timer_stop_idempotent (n : Nat) (pre post : List TOp) :
    (((TState.init n).run pre).timer.stop ((TState.init n).run pre).now).1
      = ((TState.init n).run (pre ++ .stop :: post)).close := by
  simp only [TState.run, List.foldl_append, List.foldl_cons]
  generalize List.foldl TState.step (TState.init n) pre = s
  rw [← TState.run, TState.close, Timer.close, timer_run_stopped post _ _ (step_stop_duration s)]
  rfl

/-- **`Timestamp`**: after any sequence of wall-clock changes and creations, every `Timestamp`
reports the wall clock of the injected source at *its* creation (clamped at the epoch), whatever
happened to the clock afterwards; earlier timestamps are unchanged. -/
theorem c18_timestamp (s : SState) (ops : List SOp) :
    (s.run ops).values = s.values ++ stampSpec s.wall ops := by
  induction ops generalizing s with
  | nil => simp [SState.run, stampSpec]
  | cons op ops ih =>
    simp only [SState.run, List.foldl_cons] at ih ⊢
    rw [ih]
    cases op with
    | closeOnClose => cases hp : s.pending <;> simp [SState.step, stampSpec, SState.values, hp]
    | _ => simp [SState.step, stampSpec, SState.values]

/-- **`TimestampOnClose`** reports the wall clock at the moment it is closed (clamped at the epoch),
not at its creation. -/
theorem c18_timestamp_on_close (s : SState) (ops : List SOp) :
    (s.run ops).closed = s.closed ++ onCloseSpec s.wall s.pending ops := by
  induction ops generalizing s with
  | nil => simp [SState.run, onCloseSpec]
  | cons op ops ih =>
    simp only [SState.run, List.foldl_cons] at ih ⊢
    rw [ih]
    cases op with
    | closeOnClose => cases hp : s.pending <;> simp [SState.step, onCloseSpec, hp]
    | _ => simp [SState.step, onCloseSpec]

/-- **Epoch units**: `EpochMicros` prints the whole microseconds of the duration since the epoch;
`EpochSeconds` / `EpochMillis` are computed from the exact decomposition `ns = secs·10⁹ + nanos`
(the `f64` arithmetic on these two integers is an executable twin compared bit-for-bit with the
code); a wall clock before the epoch reports 0 and one after it reports itself. -/
theorem c18_epoch_units (ns : Nat) (w : Int) :
    (epochMicros ns * 1000 ≤ ns ∧ ns < epochMicros ns * 1000 + 1000) ∧
    (ns = secsPart ns * 1000000000 + nanosPart ns ∧ nanosPart ns < 1000000000) ∧
    (w ≤ 0 → sinceEpoch w = 0) ∧ (0 ≤ w → (sinceEpoch w : Int) = w) := by
  exact ⟨⟨Nat.div_mul_le_self .., Nat.lt_div_mul_add (by decide)⟩,
    ⟨by rw [secsPart, nanosPart, Nat.mul_comm, Nat.div_add_mod], Nat.mod_lt _ (by decide)⟩,
    Int.toNat_of_nonpos, Int.toNat_of_nonneg⟩

/-- **Time source resolution order** of `get_time_source`: explicit argument, then thread-local
override, then tokio runtime override, then the system clock. -/
theorem c18_resolve_order (e t r : Bool) :
    (e = true → resolve e t r = .explicit) ∧
    (e = false → t = true → resolve e t r = .threadLocal) ∧
    (e = false → t = false → r = true → resolve e t r = .runtime) ∧
    (e = false → t = false → r = false → resolve e t r = .system) := by
  exact ⟨fun h => by subst h; rfl, fun h1 h2 => by subst h1 h2; rfl,
    fun h1 h2 h3 => by subst h1 h2 h3; rfl, fun h1 h2 h3 => by subst h1 h2 h3; rfl⟩

theorem Env.run_append (e : Env) (a b : List EOp) :
    e.run (a ++ b) = (e.run a).bind fun e' => e'.run b := by
  induction a generalizing e with
  | nil => simp [Env.run]
  | cons op a ih =>
    simp only [List.cons_append, Env.run]
    cases e.step op with
    | none => simp
    | some e1 => simpa using ih e1

/-- Well-bracketed sequences: matched `set_time_source` / guard-drop pairs (LIFO), `with_time_source`
scopes, constructions in between — arbitrarily nested. -/
inductive Balanced : List EOp → Prop
  | nil : Balanced []
  | construct (x : Option Nat) {l : List EOp} : Balanced l → Balanced (.construct x :: l)
  | guard (g s : Nat) {mid rest : List EOp} : Balanced mid → Balanced rest →
      Balanced (.install g s :: (mid ++ .dropGuard g :: rest))
  | scope (s : Nat) {mid rest : List EOp} : Balanced mid → Balanced rest →
      Balanced (.scopeBegin s :: (mid ++ .scopeEnd :: rest))

theorem Env.run_bracket {e e' : Env} {o c : EOp} {mid rest : List EOp}
    (h : e.run (o :: (mid ++ c :: rest)) = some e') :
    ∃ e1 e2 e3, e.step o = some e1 ∧ e1.run mid = some e2 ∧ e2.step c = some e3 ∧ e3.run rest = some e' := by
  obtain ⟨e1, h1, h⟩ := Option.bind_eq_some_iff.mp h
  rw [Env.run_append] at h
  obtain ⟨e2, h2, h⟩ := Option.bind_eq_some_iff.mp h
  obtain ⟨e3, h3, h⟩ := Option.bind_eq_some_iff.mp h
  exact ⟨e1, e2, e3, h1, h2, h3, h⟩

theorem balanced_restores {ops : List EOp} (hb : Balanced ops) :
    ∀ e e' : Env, e.run ops = some e' → e' = e := by
  induction hb with
  | nil => intro e e' h; cases h; rfl
  | construct x _ ih => exact fun e e' h => ih e e' h
  | @guard g s mid rest _ _ ihm ihr =>
    intro e e' h
    obtain ⟨e1, e2, e3, hst, hm, hd, h⟩ := Env.run_bracket h
    cases ihm _ _ hm
    cases ihr _ _ h
    -- `e1` is `e` with the guard installed, `e'` is `e1` with the guard dropped
    cases hg : e.guards g <;> simp only [Env.step, hg, reduceCtorEq] at hst
    cases hst
    simp only [Env.step, if_true] at hd
    cases hd
    obtain ⟨t, r, gs, sc, rg⟩ := e
    exact congrArg (Env.mk t r · sc rg) (funext fun j => by by_cases hj : j = g <;> simp [hj, hg.symm])
  | @scope s mid rest _ _ ihm ihr =>
    intro e e' h
    obtain ⟨e1, e2, e3, hst, hm, hd, h⟩ := Env.run_bracket h
    cases ihm _ _ hm
    cases ihr _ _ h
    cases hst
    cases hd
    rfl

/-- **Dropping an override restores the previous one (LIFO nesting).** For every sequence of
installs, guard drops, `with_time_source` scopes and constructions, erasing a well-bracketed part
(matched install/drop pairs and scopes, nested to any depth) changes nothing afterwards: the
environment after `pre ++ mid ++ post` is the environment after `pre ++ post`, so every later default
constructor resolves to the same source — in particular the outer injected source is in effect again
after an inner override ends. -/
theorem c18_override_restore (pre mid post : List EOp) (hb : Balanced mid) (e e1 : Env)
    (h : e.run (pre ++ mid ++ post) = some e1) :
    e.run (pre ++ post) = some e1 ∧
    ∀ e0, e.run pre = some e0 → e.run (pre ++ mid) = some e0 := by
  rw [List.append_assoc, Env.run_append] at h
  obtain ⟨e0, hp, h⟩ := Option.bind_eq_some_iff.mp h
  rw [Env.run_append] at h
  obtain ⟨e0', hm, h⟩ := Option.bind_eq_some_iff.mp h
  cases balanced_restores hb _ _ hm
  simp only [Env.run_append, hp, Option.bind_some, h, true_and]
  exact fun _ h0 => (Option.some.inj h0) ▸ hm

theorem step_guards {e e1 : Env} {op : EOp} {g : Nat} {p : Option Nat} (hs : e.step op = some e1)
    (hne : op ≠ .dropGuard g) (hg : e.guards g = some p) : e1.guards g = some p := by
  cases op <;> dsimp only [Env.step] at hs <;> (try split at hs) <;> (try split at hs) <;> cases hs <;>
    try exact hg
  -- an install under a name that is free, the drop of another guard
  · rename_i g' _ _ hg'
    have : g ≠ g' := fun e => by rw [e, hg'] at hg; cases hg
    exact (if_neg this).trans hg
  · rename_i g' _ _ _
    have : g ≠ g' := fun e => hne (e ▸ rfl)
    exact (if_neg this).trans hg

theorem guard_kept {mid : List EOp} {g : Nat} (hm : ∀ op ∈ mid, op ≠ .dropGuard g) (e e' : Env)
    (p : Option Nat) (hg : e.guards g = some p) (h : e.run mid = some e') : e'.guards g = some p := by
  induction mid generalizing e with
  | nil => cases h; exact hg
  | cons op mid ih =>
    obtain ⟨e1, hs, h⟩ := Option.bind_eq_some_iff.mp h
    exact ih (fun o ho => hm o (List.mem_cons_of_mem _ ho)) e1
      (step_guards hs (hm op (List.mem_cons_self ..)) hg) h

/-- **What the code guarantees in any order**: whenever a guard is dropped — in LIFO order or not,
whatever was installed, dropped or scoped in between — the thread-local override becomes what it was
just before that guard's `set_time_source`. -/
theorem c18_guard_drop_restores_install_point (e e1 e2 e3 : Env) (g s : Nat) (mid : List EOp)
    (h1 : e.step (.install g s) = some e1) (h2 : e1.run mid = some e2)
    (hm : ∀ op ∈ mid, op ≠ .dropGuard g) (h3 : e2.step (.dropGuard g) = some e3) :
    e3.thread = e.thread := by
  have hg1 : e1.guards g = some e.thread := by
    dsimp only [Env.step] at h1
    split at h1 <;> cases h1
    exact if_pos rfl
  simp only [Env.step, guard_kept hm e1 e2 _ hg1 h2, Option.some.injEq] at h3
  subst h3; rfl

/-- **Precedence in an environment**: a constructor given an explicit source is bound to it; a
default constructor is bound to the current thread-local override, else to the runtime override,
else to the system clock. (`c18_resolve_order` is the same statement on presence flags.) -/
theorem c18_bind_precedence (e : Env) :
    (∀ s, e.bind (some s) = .fake s) ∧
    (∀ s, e.thread = some s → e.bind none = .fake s) ∧
    (∀ s, e.thread = none → e.runtime = some s → e.bind none = .fake s) ∧
    (e.thread = none → e.runtime = none → e.bind none = .system) := by
  refine ⟨fun s => rfl, fun s h => ?_, fun s h1 h2 => ?_, fun h1 h2 => ?_⟩ <;> simp [Env.bind, *]

/-- **Runtime-wide override**: it does not nest — installing over an existing one panics and changes
nothing; install then guard drop from an empty slot restores the empty slot; it never touches the
thread-local override. -/
theorem c18_runtime_override (e : Env) (s : Nat) :
    (e.runtime.isSome → e.step (.installRt s) = some e ∧ e.out (.installRt s) = .panic) ∧
    (e.runtime = none → e.rtGuard = false →
      (e.step (.installRt s)).bind (fun e' => e'.step .dropRt) = some e) ∧
    (∀ e', e.step (.installRt s) = some e' → e'.thread = e.thread) ∧
    (∀ e', e.step .dropRt = some e' → e'.thread = e.thread) := by
  refine ⟨fun h => ?_, fun h1 h2 => ?_, fun e' h => ?_, fun e' h => ?_⟩
  · cases hr : e.runtime <;> simp_all [Env.step, Env.out]
  · obtain ⟨t, r, gs, sc, rg⟩ := e
    simp_all [Env.step]
  · cases hr : e.runtime <;> cases hg : e.rtGuard <;> simp_all [Env.step] <;> (subst h; rfl)
  · cases hg : e.rtGuard <;> simp_all [Env.step]
    subst h; rfl

/-- a sequence through the representation switch with two concurrently live owned guards, a borrowed
guard on the shared stopwatch, overwrite and discard: accepted, and reports 7 -/
example :
    (Impl.init.run [.startB, .advance 5, .stopB, .startO 0, .advance 3, .startO 1, .advance 4,
      .overwriteO 0, .startB, .advance 2, .discardO 1, .discardB]).map Impl.close = some (some 7) := by
  decide

example :
    (Spec.init.run [.startB, .advance 5, .stopB, .startO 0, .advance 3, .startO 1, .advance 4,
      .overwriteO 0, .startB, .advance 2, .discardO 1, .discardB]).close = some 7 := by
  decide

/-- a zero-length kept span is reported as `some 0`, not `none`; after `clear`, `none` -/
example : (Impl.init.run [.startO 0, .dropO 0 false]).map Impl.close = some (some 0) ∧
    (Impl.init.run [.startO 0, .advance 9, .dropO 0 false, .clear]).map Impl.close = some none := by decide

/-- two live owned guards finished in either order: both accepted, same report (8 = 5 + 3);
with `overwrite` the order matters (8 vs 5) — it is excluded from `c18_finish_order_irrelevant` -/
example :
    (Impl.init.run [.startO 0, .advance 2, .startO 1, .advance 3, .dropO 0 false, .stopO 1]).map Impl.close = some (some 8) ∧
    (Impl.init.run [.startO 0, .advance 2, .startO 1, .advance 3, .stopO 1, .dropO 0 false]).map Impl.close = some (some 8) ∧
    (Impl.init.run [.startO 0, .advance 2, .startO 1, .advance 3, .dropO 1 false, .overwriteO 0]).map Impl.close = some (some 5) ∧
    (Impl.init.run [.startO 0, .advance 2, .startO 1, .advance 3, .overwriteO 0, .dropO 1 false]).map Impl.close = some (some 8) := by
  decide

/-- inexpressible: a second `start` while a `TimerGuard` is live -/
example : (Impl.init.run [.startB, .startB]).isNone = true := by decide

example : ((TState.init 10).run [.advance 5, .stop, .advance 3, .stop]).close = 5 := by decide

example : (SState.run { wall := 1500, stamps := [], pending := 0, closed := [] }
    [.newStamp, .newOnClose, .setWall (-5), .newStamp, .setWall 1700, .closeOnClose]).values = [1500, 0] ∧
    (SState.run { wall := 1500, stamps := [], pending := 0, closed := [] }
    [.newStamp, .newOnClose, .setWall (-5), .newStamp, .setWall 1700, .closeOnClose]).closed = [1700] := by
  decide

/-- nested overrides: inside the inner scope a default constructor is bound to the inner source, after
it ends to the outer one again, after the outer guard is dropped to the system clock -/
example :
    (Env.init.run [.install 0 1, .scopeBegin 2]).map (·.bind none) = some (.fake 2) ∧
    (Env.init.run [.install 0 1, .scopeBegin 2, .construct none, .scopeEnd]).map (·.bind none) = some (.fake 1) ∧
    (Env.init.run [.install 0 1, .scopeBegin 2, .scopeEnd, .dropGuard 0]).map (·.bind none) = some .system := by
  decide

example : Balanced [.scopeBegin 2, .construct none, .install 3 4, .construct (some 7), .dropGuard 3, .scopeEnd] :=
  Balanced.scope 2 (mid := [.construct none, .install 3 4, .construct (some 7), .dropGuard 3]) (rest := [])
    (.construct none (Balanced.guard 3 4 (mid := [.construct (some 7)]) (rest := []) (.construct _ .nil) .nil)) .nil

/-- guards dropped out of order (what the code does, `c18_guard_drop_restores_install_point`): the
guard installed first restores "no override", the one installed second then restores source 1 —
although no guard is live any more -/
example :
    (Env.init.run [.install 0 1, .install 1 2, .dropGuard 0]).map (·.bind none) = some .system ∧
    (Env.init.run [.install 0 1, .install 1 2, .dropGuard 0, .dropGuard 1]).map (·.bind none) = some (.fake 1) := by
  decide

end Timers

#print axioms Timers.c18_stopwatch_refines
#print axioms Timers.c18_unwinding_drop_is_a_drop
#print axioms Timers.c18_spec_total_sum
#print axioms Timers.c18_stop_returns_span
#print axioms Timers.c18_single_cell
#print axioms Timers.c18_expressible
#print axioms Timers.c18_finish_order_irrelevant
#print axioms Timers.c18_timer
#print axioms Timers.c18_timer_stop_idempotent
#print axioms Timers.c18_timestamp
#print axioms Timers.c18_timestamp_on_close
#print axioms Timers.c18_epoch_units
#print axioms Timers.c18_resolve_order
#print axioms Timers.c18_override_restore
#print axioms Timers.c18_guard_drop_restores_install_point
#print axioms Timers.c18_bind_precedence
#print axioms Timers.c18_runtime_override
