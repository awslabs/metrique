import Props.C06RefineLemmas
/-!
Logging slack of the T-trace harness for end observations (`acceptFrom_end_later`), used by
`c06_logging_slack_partial`.
-/
namespace KeepAlive
open Spec

def bump (t : SSt) : SSt := { t with inflight := t.inflight + 1 }
def incD (t : SSt) : SSt := { t with dgEnded := t.dgEnded + 1 }

/-- `feed` reads `inflight` only to see that it is positive -/
theorem feed_bump {t u : SSt} {o : Obs} (h : feed t o = some u) : feed (bump t) o = some (bump u) := by
  have key : feed (bump t) o = (feed t o).map bump := by
    cases o with
    | eR | eF | eD =>
      simp only [feed, bump] at h ⊢
      split at h
      · rename_i hp
        simp only [if_pos hp, if_pos (show t.inflight + 1 > 0 by omega), Option.map_some, bump, Nat.add_sub_cancel,
          Nat.sub_add_cancel hp]
      · cases h
    | eG i =>
      simp only [feed, bump] at h ⊢
      cases hsl : t.slots[i]? with
      | none => rfl
      | some sl =>
        simp only [hsl] at h ⊢
        split at h
        · rename_i hp
          have hp' := hp
          simp only [Bool.and_eq_true, decide_eq_true_eq] at hp'
          simp only [hp'.1, hp'.2, show t.inflight + 1 > 0 by omega, decide_true, Bool.and_self, if_true,
            Option.map_some, bump, Nat.add_sub_cancel, Nat.sub_add_cancel hp'.2, Spec.cond]
        · cases h
    | opn i _ _ | delay i | gm i _ | bG i =>
      simp only [feed, bump]
      cases t.slots[i]? <;> simp only [apply_ite (Option.map _), Option.map_some, Option.map_none] <;> rfl
    | _ => simp only [feed, bump, apply_ite (Option.map _), Option.map_some, Option.map_none] <;> rfl
  rw [key, h]; rfl

/-- `feed` never reads `dgEnded` -/
theorem feed_incD (t : SSt) (o : Obs) : feed (incD t) o = (feed t o).map incD := by
  cases o with
  | opn i _ _ | delay i | gm i _ | bG i | eG i =>
    simp only [feed, incD]
    cases t.slots[i]? <;> simp only [apply_ite (Option.map _), Option.map_some, Option.map_none] <;> rfl
  | _ => simp only [feed, incD, apply_ite (Option.map _), Option.map_some, Option.map_none] <;> rfl

theorem feedChecked_eq_some {t u : SSt} {o : Obs} :
    feedChecked t o = some u ↔ feed t o = some u ∧ (due u && decide (u.apps = 0)) = false := by
  cases h : feed t o with
  | none => simp [feedChecked, h]
  | some v =>
    cases hd : (due v && decide (v.apps = 0)) with
    | false =>
      simp only [feedChecked, h, hd, Bool.false_eq_true, if_false, Option.some.injEq]
      constructor
      · rintro rfl; exact ⟨rfl, hd⟩
      · rintro ⟨rfl, _⟩; rfl
    | true =>
      simp only [feedChecked, h, hd, if_true, Option.some.injEq]
      constructor
      · intro h; cases h
      · rintro ⟨h1, h2⟩; cases h1; rw [hd] at h2; cases h2

/-- An end observation `e` that acts like `eF` followed by an update `fin` which `feed` commutes with may be logged one
observation later: in between the drop counts as in flight, so the automaton cannot be late. -/
theorem end_later_of {t : SSt} {e o : Obs} {rest : List Obs} (fin : SSt → SSt)
    (hfin : ∀ t o, feed (fin t) o = (feed t o).map fin) (he : ∀ t, feed t e = (feed t .eF).map fin)
    (h : acceptFrom t (e :: o :: rest) = true) : acceptFrom t (o :: e :: rest) = true := by
  simp only [acceptFrom] at h ⊢
  cases h1 : feedChecked t e with
  | none => simp [h1] at h
  | some t1 =>
    cases h2 : feedChecked t1 o with
    | none => simp [h1, h2] at h
    | some u =>
      simp only [h1, h2] at h
      obtain ⟨f1, -⟩ := feedChecked_eq_some.mp h1
      obtain ⟨f2, d2⟩ := feedChecked_eq_some.mp h2
      have hpos : t.inflight > 0 := Nat.pos_of_ne_zero fun hn => by rw [he] at f1; simp [feed, hn] at f1
      have hF : ∀ t : SSt, t.inflight > 0 → feed t .eF = some { t with inflight := t.inflight - 1 } :=
        fun t hp => by simp [feed, hp]
      rw [he, hF t hpos, Option.map_some, Option.some.injEq] at f1
      subst f1
      rw [hfin] at f2
      obtain ⟨u0, f0, rfl⟩ := Option.map_eq_some_iff.1 f2
      have f3 := feed_bump f0
      have ht : bump { t with inflight := t.inflight - 1 } = t := by
        cases t; simp only [bump, SSt.mk.injEq, true_and, and_true]; simp at hpos; omega
      rw [ht] at f3
      have c3 := feedChecked_mid f3 (.inl (Nat.succ_pos _))
      have c4 : feedChecked (bump u0) e = some (fin u0) :=
        feedChecked_eq_some.mpr ⟨by rw [he, hF _ (Nat.succ_pos _)]; rfl, d2⟩
      simp only [c3, c4]
      exact h

/-- **Logging slack, end observations.** Logging the return of an owner / flush-guard / force-flush-guard drop
(`eR`, `eF`, `eD`) one observation later keeps a history accepted. -/
theorem acceptFrom_end_later {t : SSt} {e o : Obs} {rest : List Obs} (he : e = .eR ∨ e = .eF ∨ e = .eD)
    (h : acceptFrom t (e :: o :: rest) = true) : acceptFrom t (o :: e :: rest) = true := by
  rcases he with rfl | rfl | rfl
  · exact end_later_of id (fun _ _ => by simp) (fun _ => by simp [feed]) h
  · exact end_later_of id (fun _ _ => by simp) (fun _ => by simp [feed]) h
  · exact end_later_of incD feed_incD (fun t => by simp only [feed]; split <;> rfl) h

end KeepAlive
