import Model.KeepAlive
/-!
One slot (`poll`) and lists of slots: `modifyAt`, `closeFirst` (which is `modifyAt closeSlot1` at the first field not
yet closed), and sums over the slots (`sumBy`; `held` is `sumBy heldBy`).
-/
namespace KeepAlive

theorem poll_same (sl : Slot) : (poll sl).1.closedAs = sl.closedAs ∧ (poll sl).1.opened = sl.opened ∧
    (poll sl).1.mode = sl.mode ∧ (poll sl).1.sentOk = sl.sentOk ∧ (poll sl).1.g = sl.g ∧ (poll sl).1.gval = sl.gval ∧
    (poll sl).1.failed = sl.failed := by
  cases hrx : sl.rx with
  | false => simp [poll, hrx]
  | true =>
    cases hc : sl.cell with
    | some v => simp [poll, hrx, hc]
    | none => cases hs : senderAlive sl <;> simp [poll, hrx, hc, hs]

theorem heldBy_poll (sl : Slot) : heldBy (poll sl).1 = heldBy sl := by
  obtain ⟨-, -, hm, -, hg, -⟩ := poll_same sl
  rw [heldBy, hm, hg]; rfl

theorem modifyAt_length {α : Type} (f : α → α) (l : List α) (i : Nat) : (modifyAt f l i).length = l.length := by
  induction l generalizing i with
  | nil => rfl
  | cons a r ih => cases i <;> simp [modifyAt, ih]

theorem modifyAt_id {α : Type} (l : List α) (i : Nat) : modifyAt (fun x => x) l i = l := by
  induction l generalizing i with
  | nil => rfl
  | cons a r ih => cases i <;> simp [modifyAt, ih]

theorem getElem?_modifyAt {α : Type} (f : α → α) (l : List α) (i j : Nat) :
    (modifyAt f l i)[j]? = if i = j then l[j]?.map f else l[j]? := by
  induction l generalizing i j with
  | nil => simp [modifyAt]
  | cons a r ih =>
    cases i with
    | zero => cases j <;> simp [modifyAt]
    | succ i =>
      cases j with
      | zero => simp [modifyAt]
      | succ j => simp [modifyAt, ih]

theorem mem_modifyAt {α : Type} {f : α → α} {l : List α} {i : Nat} {x : α} (h : x ∈ modifyAt f l i) :
    x ∈ l ∨ ∃ a, l[i]? = some a ∧ x = f a := by
  obtain ⟨j, hj⟩ := List.getElem?_of_mem h
  rw [getElem?_modifyAt] at hj
  split at hj
  · subst i
    obtain ⟨a, ha, rfl⟩ := Option.map_eq_some_iff.1 hj
    exact Or.inr ⟨a, ha, rfl⟩
  · exact Or.inl (List.mem_of_getElem? hj)

theorem closeFirst_eq {l l' : List Slot} (h : closeFirst l = some l') :
    ∃ j sl, l[j]? = some sl ∧ sl.closedAs = none ∧ l' = modifyAt closeSlot1 l j := by
  induction l generalizing l' with
  | nil => simp [closeFirst] at h
  | cons a r ih =>
    simp only [closeFirst] at h
    split at h
    · cases h; exact ⟨0, a, rfl, by simpa using ‹a.closedAs.isNone = true›, rfl⟩
    · cases hr : closeFirst r with
      | none => simp [hr] at h
      | some r' =>
        simp [hr] at h; subst h
        obtain ⟨j, sl, h1, h2, rfl⟩ := ih hr
        exact ⟨j + 1, sl, by simpa using h1, h2, rfl⟩

theorem mem_closeFirst {l l' : List Slot} {x : Slot} (h : closeFirst l = some l') (hx : x ∈ l') :
    x ∈ l ∨ ∃ a ∈ l, a.closedAs = none ∧ x = closeSlot1 a := by
  obtain ⟨j, sl, hsl, hn, rfl⟩ := closeFirst_eq h
  refine (mem_modifyAt hx).imp_right fun ⟨a, ha, hxa⟩ => ?_
  cases hsl.symm.trans ha
  exact ⟨sl, List.mem_of_getElem? hsl, hn, hxa⟩

def sumBy (f : Slot → Nat) : List Slot → Nat
  | [] => 0
  | a :: r => f a + sumBy f r

theorem sumBy_modify {f : Slot → Nat} {l : List Slot} {i : Nat} {sl : Slot} (g : Slot → Slot)
    (h : l[i]? = some sl) : sumBy f (modifyAt g l i) + f sl = sumBy f l + f (g sl) := by
  induction l generalizing i with
  | nil => simp at h
  | cons a r ih =>
    cases i with
    | zero => simp at h; subst h; simp [modifyAt, sumBy]; omega
    | succ i => simp at h; have := ih h; simp [modifyAt, sumBy]; omega

theorem sumBy_le {f : Slot → Nat} {l : List Slot} {i : Nat} {sl : Slot} (h : l[i]? = some sl) :
    f sl ≤ sumBy f l := by
  induction l generalizing i with
  | nil => simp at h
  | cons a r ih =>
    cases i with
    | zero => simp at h; subst h; simp [sumBy]
    | succ i => simp at h; have := ih h; simp [sumBy]; omega

theorem held_eq (l : List Slot) : held l = sumBy heldBy l := by
  induction l with
  | nil => rfl
  | cons a r ih => simp [held, sumBy, ih]

theorem held_modify {l : List Slot} {i : Nat} {sl : Slot} (f : Slot → Slot) (h : l[i]? = some sl) :
    held (modifyAt f l i) + heldBy sl = held l + heldBy (f sl) := by
  rw [held_eq, held_eq]; exact sumBy_modify f h

theorem heldBy_le_held {l : List Slot} {i : Nat} {sl : Slot} (h : l[i]? = some sl) : heldBy sl ≤ held l :=
  held_eq l ▸ sumBy_le h

theorem held_pos {l : List Slot} {i : Nat} {sl : Slot} (hsl : l[i]? = some sl) (hg : sl.g ≠ .none) (hm : sl.mode = .wait) :
    0 < held l := by
  have := heldBy_le_held hsl
  rwa [heldBy, if_pos ⟨hg, hm⟩] at this

theorem held_closeFirst {l l' : List Slot} (h : closeFirst l = some l') : held l' = held l := by
  obtain ⟨j, sl, hsl, -, rfl⟩ := closeFirst_eq h
  exact Nat.add_right_cancel (held_modify closeSlot1 hsl)

end KeepAlive
