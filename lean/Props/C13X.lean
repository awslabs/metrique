import Props.C06X
import Props.C13
/-!
# C13 over the extended model (`Model/KeepAliveX.lean`)

Every schedule (`ReachableX`) of the model extended by slot guards whose drop panics in `close()` (`gSendFail`: the
sender goes away without sending, ghost `Slot.failed`) and by slot fields replaced while their
guard is alive (`slotReplace`, orphan guards).  The theorems are per slot and make no assumption about the other
slots: a failed or replaced sibling changes nothing for a slot ("no partial, no lost sibling values").
-/
namespace KeepAlive

variable {cfg : List (Bool × Nat)} {x x' : StX}

theorem slotOkX_gSendFail {sl : Slot} (h : SlotOkX sl) (hg : sl.g = .live) :
    SlotOkX { sl with g := .sent, sentOk := false, failed := true } :=
  have hns := not_sent_of_live h hg
  have hop := opened_of_live h hg
  { h with
    unopened := fun ho => absurd (hop.symm.trans ho) nofun
    nothing := fun _ => h.nothing hns
    sentg := nofun
    rxstays := fun _ _ => nofun
    delivered := fun _ => nofun
    gone := fun _ _ => Or.inr (Or.inr rfl)
    closed := fun r hr => by simpa [hns] using h.closed r hr
    failedg := fun _ => ⟨nofun, hop, rfl⟩ }

theorem sinvXx_step {e : EvX} (hi : Inv x.b) (hs : SInvX x.b) (h : stepX x e = some x') : SInvX x'.b := by
  cases stepX_cases h with
  | base e b' _ hst => exact sinvX_step hi hs hst
  | gSendFail i sl hsl hg =>
    exact sinvX_setSlot _ hs hsl (slotOkX_gSendFail (hs.ok sl (List.mem_of_getElem? hsl)) hg) rfl
      (fun _ _ _ _ hf => by simp at hf)
  | slotReplace i v sl hsl hu =>
    have hcl := not_closed_of_usableX hs hu (List.mem_of_getElem? hsl)
    exact sinvX_setSlot _ hs hsl (slotOkX_fresh (sl.lazy, v)) (by simp [hcl]) (fun hc => by simp at hc)
  | oDelayAgain | oReleaseWait => exact sinvX_dropFG hs
  | _ => exact hs

theorem sinvX_reachableX (hr : ReachableX cfg x) : SInvX x.b := by
  induction hr with
  | init => exact sinvX_init cfg
  | step e hr' h ih => exact sinvXx_step (invX_reachable hr').inv ih h

/-- **C13 (extended): present iff sent first, for every slot, whatever happened to its siblings.** The close result of
a field is `Some` of its guard's last value exactly when that guard's send preceded the field's close, `None`
otherwise. -/
theorem c13_x_closed_iff_sent (hr : ReachableX cfg x) {sl : Slot} (hm : sl ∈ x.b.slots) {r : Option Nat}
    (hc : sl.closedAs = some r) : r = if sl.sentOk then some sl.gval else none :=
  ((sinvX_reachableX hr).ok sl hm).closed r hc

/-- **C13 (extended): a guard whose drop panicked in `close()` contributes nothing.** If its slot has been closed, the
result is `None` (the documented "its fields are dropped from your entry"). -/
theorem c13_x_failed_absent (hr : ReachableX cfg x) {sl : Slot} (hm : sl ∈ x.b.slots) (hf : sl.failed = true)
    {r : Option Nat} (hc : sl.closedAs = some r) : r = none := by
  have hok := (sinvX_reachableX hr).ok sl hm
  have := hok.closed r hc
  simpa [(hok.failedg hf).2.2] using this

/-- **C13 (extended): wait mode never loses the value.** For every opened slot whose (current) guard is in wait mode and
did not fail: if the field has been closed and no force-flush guard has begun to drop, the result is `Some` of the
guard's last value — with no hypothesis about the other slots: siblings that failed, or whose field was replaced, take
nothing away. -/
theorem c13_x_wait_never_lost (hr : ReachableX cfg x) {sl : Slot} (hm : sl ∈ x.b.slots) {r : Option Nat}
    (hc : sl.closedAs = some r) (ho : sl.opened = true) (hw : sl.mode = .wait) (hd : x.b.dgBegun = 0)
    (hf : sl.failed = false) : r = some sl.gval := by
  have hs := sinvX_reachableX hr
  have hsent := hs.g1 sl hm (by simp [hc]) ho hw hd hf
  have := (hs.ok sl hm).closed r hc
  simpa [hsent] using this

/-- the new events touch one slot field only (frame): every sibling is literally unchanged -/
theorem c13_x_siblings_untouched {i j : Nat} {v : Nat} {e : EvX} (he : e = .gSendFail i ∨ e = .slotReplace i v)
    (h : stepX x e = some x') (hij : i ≠ j) : x'.b.slots[j]? = x.b.slots[j]? := by
  rcases he with rfl | rfl <;> cases stepX_cases h <;> simp [setSlot, getElem?_modifyAt, hij]

/-- orphan operations never touch a slot field -/
theorem c13_x_orphans_touch_no_slot {e : EvX}
    (he : match e with
      | .oDelay _ | .oGmut .. | .oSend _ | .oSendFail _ | .oRelease _ => True
      | _ => False)
    (h : stepX x e = some x') : x'.b.slots = x.b.slots := by
  cases stepX_cases h with
  | base | gSendFail | slotReplace => exact he.elim
  | _ => simp

/-- **C13 (extended): `Slot::close` is total**, also for a slot whose sender went away without sending. -/
theorem c13_x_close_total (ha : anyApp x.b = true) :
    (stepX x (.base .closeSlot)).isSome = true ∨ (stepX x (.base .emit)).isSome = true := by
  simpa [stepX, needsFree] using app_enabled ha

/-- the C13-j shape with a sibling: slot 0 in wait mode whose guard's `close()` panics, slot 1 in wait mode closing
normally; the owner is gone; the failing guard's unwind releases its flush guard, the sibling's drop the last one:
the entry is appended once, without slot 0, with slot 1's value. -/
example : (runX (initX [fresh (false, 3), fresh (false, 6)]) [.base .newFG, .base (.open 0 .wait 0), .base .newFG,
            .base (.open 1 .wait 0), .base (.gmut 1 5), .base .refDrop, .base .pDecV, .base .pDecG,
            .gSendFail 0, .base (.gRelease 0), .base (.gSend 1), .base (.gRelease 1), .base .innerDrop,
            .base .closeSlot, .base .closeSlot, .base .emit]).map (fun x => (x.b.appended, inFlightX x))
    = some ([⟨0, 0, [none, some 5]⟩], false) := by decide

/-- `wait_for_data` on a slot whose guard's drop panicked is ready with no data -/
example : (runX (initX [fresh (false, 3)]) [.base (.open 0 .discard 0), .gSendFail 0, .base (.gRelease 0),
            .base (.waitBegin 0)]).map (fun x => (x.b.borrowed, x.b.slots.map (·.data)))
    = some (none, [none]) := by decide

end KeepAlive

#print axioms KeepAlive.c13_x_closed_iff_sent
#print axioms KeepAlive.c13_x_failed_absent
#print axioms KeepAlive.c13_x_wait_never_lost
#print axioms KeepAlive.c13_x_siblings_untouched
#print axioms KeepAlive.c13_x_orphans_touch_no_slot
#print axioms KeepAlive.c13_x_close_total
