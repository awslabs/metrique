import Model.EmfRefine
import Props.C02Json
/-!
Printer lemmas for the refinement: what `JsonTree.print` produces on the trees of `recordJson`, in the
"leading comma" form the operational model writes.
-/
namespace EmfRefine
open JsonTree Json EmfSpec

/-- `"key":value` -/
def pm (m : List Nat × JVal) : List Nat := jstr m.1 ++ 58 :: print m.2

theorem printElems_eq_sepBy (l : List JVal) : printElems l = sepBy [44] (l.map print) := by
  induction l with
  | nil => rfl
  | cons x rest ih =>
    cases rest with
    | nil => simp [printElems, sepBy]
    | cons y ys =>
      simp only [List.map_cons, printElems, sepBy] at ih ⊢
      rw [ih]; simp

theorem printElems_cons (x : JVal) (xs : List JVal) :
    printElems (x :: xs) = print x ++ (xs.map fun y => 44 :: print y).flatten := by
  rw [printElems_eq_sepBy, List.map_cons, sepBy_cons_flat, List.map_map]; rfl

theorem printMembers_cons (m : List Nat × JVal) (ms : List (List Nat × JVal)) :
    printMembers (m :: ms) = pm m ++ (ms.map fun y => 44 :: pm y).flatten := by
  induction ms generalizing m with
  | nil => obtain ⟨k, x⟩ := m; simp [printMembers, pm]
  | cons y ys ih =>
    obtain ⟨k, x⟩ := m
    simp only [printMembers, ih y, pm, List.map_cons, List.flatten_cons]
    simp

theorem printElems_snoc (l : List JVal) (x : JVal) :
    printElems (l ++ [x]) = if l.isEmpty then print x else printElems l ++ 44 :: print x := by
  cases l with
  | nil => simp [printElems]
  | cons y ys => simp [printElems_cons]

theorem printElems_append_cons (l : List JVal) (x : JVal) (r : List JVal) :
    printElems (l ++ x :: r) =
      (if l.isEmpty then print x else printElems l ++ 44 :: print x) ++ (r.map fun y => 44 :: print y).flatten := by
  cases l with
  | nil => simp [printElems_cons]
  | cons y ys => simp [printElems_cons]

theorem printElems_strs (xs : List (List Nat)) : printElems (xs.map JVal.str) = sepBy [44] (xs.map jstr) := by
  rw [printElems_eq_sepBy, List.map_map]; rfl

theorem jarrStrings_eq_print (xs : List (List Nat)) : jarrStrings xs = print (.arr (xs.map .str)) := by
  simp [jarrStrings, print, printElems_strs]

theorem jstr_ne_nil (s : List Nat) : jstr s ≠ [] := by simp [jstr]

theorem sepBy_jstr_nil_iff (xs : List (List Nat)) : sepBy [44] (xs.map jstr) = [] ↔ xs = [] := by
  cases xs with
  | nil => simp [sepBy]
  | cons x rest =>
    cases rest with
    | nil => simp [sepBy, jstr]
    | cons y ys => simp [sepBy, jstr]

theorem sepBy_snoc (xs : List (List Nat)) (x : List Nat) :
    sepBy [44] (xs ++ [x]) = if xs.isEmpty then x else sepBy [44] xs ++ 44 :: x := by
  induction xs with
  | nil => simp [sepBy]
  | cons y ys ih =>
    cases ys with
    | nil => simp [sepBy]
    | cons z zs =>
      simp only [List.cons_append, sepBy] at ih ⊢
      rw [ih]; simp

theorem extendLoop_eq (names : List (List Nat)) (pre : List (List Nat)) :
    Emf.extendLoop (91 :: sepBy [44] (pre.map jstr)) pre.isEmpty names
      = 91 :: sepBy [44] ((pre ++ names).map jstr) := by
  induction names generalizing pre with
  | nil => simp [Emf.extendLoop]
  | cons n rest ih =>
    unfold Emf.extendLoop
    have := ih (pre ++ [n])
    have he : (pre ++ [n]).isEmpty = false := by cases pre <;> rfl
    rw [he] at this
    have e1 : pre ++ n :: rest = pre ++ [n] ++ rest := by simp
    rw [e1, ← this]
    congr 1
    have h2 := sepBy_snoc (pre.map jstr) (jstr n)
    simp only [List.isEmpty_map] at h2
    rw [List.map_append, List.map_cons, List.map_nil, h2]
    cases pre with
    | nil => simp [sepBy]
    | cons p ps => simp

theorem extendWithStrings_jarr (d s : List (List Nat)) :
    Emf.extendWithStrings (jarrStrings d) s = jarrStrings (d ++ s) := by
  unfold Emf.extendWithStrings
  have htake : (jarrStrings d).take ((jarrStrings d).length - 1) = 91 :: sepBy [44] (d.map jstr) := by
    have : jarrStrings d = (91 :: sepBy [44] (d.map jstr)) ++ [93] := by simp [jarrStrings]
    rw [this, List.length_append]
    simp
  have hfirst : ((jarrStrings d).length == 2) = d.isEmpty := by
    cases d with
    | nil => rfl
    | cons x rest =>
      have : sepBy [44] ((x :: rest).map jstr) ≠ [] := fun h => by
        have := (sepBy_jstr_nil_iff (x :: rest)).mp h; simp at this
      have hl : 0 < (sepBy [44] ((x :: rest).map jstr)).length := List.length_pos_iff.mpr this
      simp only [jarrStrings, List.length_cons, List.length_append, List.length_nil, List.isEmpty_cons,
        beq_eq_false_iff_ne, ne_eq]
      omega
  simp only [htake, hfirst, extendLoop_eq]
  simp [jarrStrings]

theorem jstr_Name : jstr (bytes! "Name") = bytes! "\"Name\"" := by decide
theorem jstr_Unit : jstr (bytes! "Unit") = bytes! "\"Unit\"" := by decide
theorem jstr_SR : jstr (bytes! "StorageResolution") = bytes! "\"StorageResolution\"" := by decide
theorem jstr_Values : jstr (bytes! "Values") = bytes! "\"Values\"" := by decide
theorem jstr_Counts : jstr (bytes! "Counts") = bytes! "\"Counts\"" := by decide
theorem jstr_Namespace : jstr (bytes! "Namespace") = bytes! "\"Namespace\"" := by decide
theorem jstr_Dimensions : jstr (bytes! "Dimensions") = bytes! "\"Dimensions\"" := by decide
theorem jstr_Metrics : jstr (bytes! "Metrics") = bytes! "\"Metrics\"" := by decide
theorem jstr_aws : jstr (bytes! "_aws") = bytes! "\"_aws\"" := by decide
theorem jstr_CWM : jstr (bytes! "CloudWatchMetrics") = bytes! "\"CloudWatchMetrics\"" := by decide
theorem jstr_LGN : jstr (bytes! "LogGroupName") = bytes! "\"LogGroupName\"" := by decide
theorem jstr_Timestamp : jstr (bytes! "Timestamp") = bytes! "\"Timestamp\"" := by decide

theorem metricDecl_eq_print (name : Str) (unit : Option Str) (flag : Flag) (hf : flag ≠ .noMetric) :
    Emf.metricDecl name unit (toEmfFlags flag) = print (declJson ⟨name, unit, decide (flag = .hires)⟩) := by
  cases unit <;> cases flag <;>
    first
    | exact absurd rfl hf
    | simp [Emf.metricDecl, toEmfFlags, declJson, print, printMembers, jstr_Name, jstr_Unit, jstr_SR]

theorem extraMetric_eq_print (d : Decl) :
    Emf.extraMetricJson { name := d.name, unit := d.unit.getD (bytes! "None"), storage := if d.hires then some 1 else none }
      = print (extraDeclJson d) := by
  obtain ⟨n, un, hi⟩ := d
  cases hi <;>
    simp [Emf.extraMetricJson, extraDeclJson, print, printMembers, jstr_Name, jstr_Unit, jstr_SR, natDigits, digitsAux]

theorem printElems_map (f : JVal → List Nat) (g : JVal → List Nat) (l : List JVal) (h : ∀ x ∈ l, f x = g x) :
    sepBy [44] (l.map f) = sepBy [44] (l.map g) := by
  have : l.map f = l.map g := List.map_congr_left h
  rw [this]

theorem dimsJson_print (dims : List (List Str)) :
    printElems (dims.map fun s => JVal.arr (s.map .str)) = sepBy [44] (dims.map jarrStrings) := by
  rw [printElems_eq_sepBy, List.map_map]
  congr 1
  apply List.map_congr_left
  intro s _
  simp [jarrStrings_eq_print]

theorem extraDirective_eq_print (d : Directive) :
    Emf.extraDirectiveJson (toEmfExtra d) = print (extraDirectiveJson d) := by
  have hm : sepBy [44] ((toEmfExtra d).metrics.map Emf.extraMetricJson) = printElems (d.metrics.map extraDeclJson) := by
    rw [printElems_eq_sepBy, List.map_map]
    simp only [toEmfExtra, List.map_map]
    congr 1
    apply List.map_congr_left
    intro m _
    exact extraMetric_eq_print m
  simp only [Emf.extraDirectiveJson, hm]
  simp [extraDirectiveJson, toEmfExtra, print, printMembers, dimsJson, dimsJson_print, jstr_Dimensions, jstr_Metrics,
    jstr_Namespace]

theorem extras_eq_print (extra : List Directive) :
    Emf.extraDirectivesStr (extra.map toEmfExtra) = (extra.map fun d => 44 :: print (extraDirectiveJson d)).flatten := by
  simp only [Emf.extraDirectivesStr, List.map_map, Function.comp_def, extraDirective_eq_print]

end EmfRefine
