import Model.Global
/-!
# C17 — global sinks route each entry to exactly one destination, by fixed precedence

Theorems about `Global.step` / `Global.run` (model of the statics and API that `global_entry_sink!`
generates, `metrique-writer-core/src/global.rs`), for every state, every context (thread, current
runtime), every operation and every script — no bound on the number of threads, runtimes, sinks or
on the script length — and about `Global.raceRun` (appends racing the detach) for every schedule.
-/
namespace Global

/-- **C17 precedence.** The destination is the calling thread's test sink if one is installed,
otherwise the current runtime's test sink, otherwise the attached sink. -/
theorem c17_precedence (st : State) (c : Ctx) :
    (∀ s, st.tl c.thread = some s → route st c = some s) ∧
    (∀ r s, st.tl c.thread = none → c.runtime = some r → st.rt r = some s → route st c = some s) ∧
    (st.tl c.thread = none → (∀ r, c.runtime = some r → st.rt r = none) → route st c = st.attached) := by
  refine ⟨?_, ?_, ?_⟩
  · intro s h; simp [route, testSink, h]
  · intro r s h1 h2 h3; simp [route, testSink, h1, h2, h3]
  · intro h1 h2
    cases hr : c.runtime with
    | none => simp [route, testSink, h1, hr]
    | some r => simp [route, testSink, h1, hr, h2 r hr]

/-- The routed operations answer `dest d` with `d` the destination `route` gives; they fail (panic /
hand back / `None`) exactly when there is no destination at all. -/
theorem c17_routed (st : State) (c : Ctx) (e : Nat) :
    (step st c (.append e)).2 = (match route st c with | some d => .dest d | none => .panic) ∧
    (step st c (.tryAppend e)).2 = (match route st c with | some d => .dest d | none => .returned e) ∧
    (step st c (.sink e)).2 = (match route st c with | some d => .dest d | none => .panic) ∧
    (step st c (.trySink e)).2 = (match route st c with | some d => .dest d | none => .none) ∧
    (step st c .isAttached).2 = .bool (route st c).isSome := by
  unfold step
  cases route st c <;> exact ⟨rfl, rfl, rfl, rfl, rfl⟩

theorem run_cons (st : State) (c : Ctx) (op : Op) (rest : List (Ctx × Op)) :
    run st ((c, op) :: rest) =
      ((run (step st c op).1 rest).1, (step st c op).2 :: (run (step st c op).1 rest).2) := rfl

theorem run_length (st : State) (script : List (Ctx × Op)) : (run st script).2.length = script.length := by
  induction script generalizing st with
  | nil => rfl
  | cons x rest ih => rw [run_cons, List.length_cons, ih, List.length_cons]

theorem received_deliver (st : State) (d e d' : Nat) :
    received (deliver st d e) d' = if d' = d then received st d' ++ [e] else received st d' := by
  unfold received deliver
  by_cases h : d' = d
  · subst h; simp [List.filter_append]
  · have : (d == d') = false := by simp; exact fun h' => h h'.symm
    simp [List.filter_append, h, this]

/-- The deliveries a script makes, read off its results. -/
def deliveries : List (Ctx × Op) → List Res → List (Nat × Nat)
  | (_, op) :: rest, r :: rs =>
    (match op.entry, r with
      | some e, .dest d => [(d, e)]
      | _, _ => []) ++ deliveries rest rs
  | _, _ => []

theorem step_log (st : State) (c : Ctx) (op : Op) :
    (step st c op).1.log = st.log ++ deliveries [(c, op)] [(step st c op).2] := by
  cases op <;> dsimp only [step, setRuntime] <;> (try split) <;> (try split) <;>
    first | exact (List.append_nil _).symm | rfl

/-- **C17 exactly one destination.** An operation carrying entry `e` either answers `dest d` and
then sink `d` — and no other sink — has received `e` once more, at the end; or it answers something
else (`panic`, `returned`, `none`, `noop`) and no sink has received anything. -/
theorem c17_exactly_one (st : State) (c : Ctx) (op : Op) (e : Nat) (h : op.entry = some e) :
    (∃ d, (step st c op).2 = .dest d ∧
      ∀ d', received (step st c op).1 d' = if d' = d then received st d' ++ [e] else received st d') ∨
    ((∀ d, (step st c op).2 ≠ .dest d) ∧ ∀ d', received (step st c op).1 d' = received st d') := by
  have hl := step_log st c op
  simp only [deliveries, h, List.append_nil] at hl
  cases hr : (step st c op).2 with
  | dest d =>
    rw [hr] at hl
    exact .inl ⟨d, rfl, fun d' => by rw [← received_deliver]; simp only [received, deliver, hl]⟩
  | _ =>
    rw [hr] at hl
    exact .inr ⟨fun _ => Res.noConfusion, fun d' => by simp only [received, hl, List.append_nil]⟩

/-- Operations that carry no entry never deliver anything. -/
theorem c17_no_entry_no_delivery (st : State) (c : Ctx) (op : Op) (h : op.entry = none) (d' : Nat) :
    received (step st c op).1 d' = received st d' := by
  simp only [received, step_log, deliveries, h, List.append_nil]

/-- **C17 hand-back.** `try_append` hands back exactly the entry it was given, and only when there
is no destination; the global is then untouched. -/
theorem c17_try_append_returns_unchanged (st : State) (c : Ctx) (e e' : Nat)
    (h : (step st c (.tryAppend e)).2 = .returned e') :
    e' = e ∧ route st c = none ∧ (step st c (.tryAppend e)).1 = st := by
  cases hr : route st c with
  | none => simp [step, hr] at h ⊢; exact h.symm
  | some d => simp [step, hr] at h

/-- **C17 exactly one destination, whole histories.** After any script the log is the initial log
followed by one record per operation that answered `dest d` (to that `d`, of that operation's
entry), in order: nothing is ever delivered twice, to a second sink, later, or removed. -/
theorem c17_log_is_results (st : State) (script : List (Ctx × Op)) :
    (run st script).1.log = st.log ++ deliveries script (run st script).2 := by
  induction script generalizing st with
  | nil => exact (List.append_nil _).symm
  | cons x rest ih =>
    rw [run_cons, ih, step_log, List.append_assoc]
    simp only [deliveries, List.append_nil]

theorem step_refused (st : State) (c : Ctx) (op : Op) (hok : (step st c op).2 ≠ .ok)
    (hd : ∀ d, (step st c op).2 ≠ .dest d) : (step st c op).1 = st := by
  revert hok hd
  cases op <;> dsimp only [step, setRuntime] <;> (try split) <;> (try split) <;> intro hok hd <;>
    first | rfl | exact absurd rfl hok | exact absurd rfl (hd _)

/-- **C17 panics preserve the global.** An operation that panics leaves the state exactly as it was. -/
theorem c17_panics_preserve (st : State) (c : Ctx) (op : Op) (h : (step st c op).2 = .panic) :
    (step st c op).1 = st :=
  step_refused st c op (h ▸ Res.noConfusion) fun _ => h ▸ Res.noConfusion

/-- … hence every later operation behaves as if the panicking one had not been issued. -/
theorem c17_panics_transparent (st : State) (c : Ctx) (op : Op) (rest : List (Ctx × Op))
    (h : (step st c op).2 = .panic) :
    run st ((c, op) :: rest) = ((run st rest).1, .panic :: (run st rest).2) := by
  rw [run_cons, c17_panics_preserve st c op h, h]

/-- Exactly the stated operations panic: attaching while attached, installing a second test sink of
the same kind, asking for the current runtime outside one, and `append` / `sink()` without any
destination. Nothing else does. -/
theorem c17_panic_iff (st : State) (c : Ctx) (op : Op) :
    (step st c op).2 = .panic ↔
      match op with
      | .attach _ => st.attached.isSome
      | .setTL _ => (st.tl c.thread).isSome
      | .setRT r _ => (st.rt r).isSome
      | .setRTCur _ => (match c.runtime with | none => true | some r => (st.rt r).isSome)
      | .append _ | .sink _ | .hold _ => (route st c).isNone
      | _ => false := by
  cases op <;> dsimp only [step, setRuntime] <;> (try split) <;> (try split) <;> simp_all

/-- The part of the state that decides routing (held clones and the log do not). -/
structure Core where
  attached : Option Nat
  handle : Option Nat
  tl : Nat → Option Nat
  rt : Nat → Option Nat

def State.core (st : State) : Core := ⟨st.attached, st.handle, st.tl, st.rt⟩

theorem route_core (a b : State) (h : a.core = b.core) (c : Ctx) : route a c = route b c := by
  simp only [State.core, Core.mk.injEq] at h
  obtain ⟨h1, _, h3, h4⟩ := h
  simp only [route, testSink, h1, h3, h4]

theorem upd_comm (f : Nat → Option Nat) (a b : Nat) (v w : Option Nat) (h : a ≠ b) :
    upd (upd f a v) b w = upd (upd f b w) a v := by
  funext x; simp only [upd]; by_cases h1 : x = a <;> by_cases h2 : x = b <;> simp_all

theorem upd_same (f : Nat → Option Nat) (a : Nat) (v w : Option Nat) : upd (upd f a v) a w = upd f a w := by
  funext x; simp only [upd]; split <;> rfl

theorem upd_self (f : Nat → Option Nat) (a : Nat) (h : f a = none) : upd f a none = f := by
  funext x; simp only [upd]; split <;> simp [*]

/-- Insert unless present: what installing a test sink of either kind does to its map. -/
def install (f : Nat → Option Nat) (k s : Nat) : Nat → Option Nat :=
  match f k with
  | some _ => f
  | none => upd f k (some s)

theorem install_upd (f : Nat → Option Nat) (k s t : Nat) (v : Option Nat) (h : k ≠ t) :
    install (upd f t v) k s = upd (install f k s) t v := by
  have : upd f t v k = f k := by simp [upd, h]
  unfold install
  rw [this]
  split
  · rfl
  · exact upd_comm _ _ _ _ _ (Ne.symm h)

/-- The routing state evolves on its own: the operations read nothing else to change it, and each
touches one slot of it. -/
def Core.step (k : Core) (c : Ctx) : Op → Core
  | .attach s =>
    match k.attached with
    | some _ => k
    | none => { k with attached := some s, handle := some s }
  | .dropAttach =>
    match k.handle with
    | some _ => { k with attached := none, handle := none }
    | none => k
  | .forgetAttach => { k with handle := none }
  | .setTL s => { k with tl := install k.tl c.thread s }
  | .dropTL => { k with tl := upd k.tl c.thread none }
  | .setRT r s => { k with rt := install k.rt r s }
  | .setRTCur s => { k with rt := match c.runtime with | some r => install k.rt r s | none => k.rt }
  | .dropRT r => { k with rt := upd k.rt r none }
  | _ => k

theorem step_core (st : State) (c : Ctx) (op : Op) : (step st c op).1.core = st.core.step c op := by
  -- `step` branches on the slot it is about to write; `install` branches on the same slot, and a drop
  -- from an empty slot writes `none` over `none`
  cases op <;> dsimp only [step, setRuntime, Core.step, install, State.core] <;> (try split) <;> (try rfl) <;>
    (try simp only [*, upd_self]) <;> split <;> simp only [*]

theorem dropTL_some (a : State) (c : Ctx) (s : Nat) (h : a.tl c.thread = some s) :
    step a c .dropTL = ({ a with tl := upd a.tl c.thread none }, .ok) := by simp only [step, h]

theorem dropRT_some (a : State) (c : Ctx) (k s : Nat) (h : a.rt k = some s) :
    step a c (.dropRT k) = ({ a with rt := upd a.rt k none }, .ok) := by simp only [step, h]

theorem dropAttach_some (a : State) (c : Ctx) (s : Nat) (h : a.handle = some s) :
    step a c .dropAttach = ({ a with attached := none, handle := none }, .ok) := by simp only [step, h]

/-- What each drop does to the routing state: it clears its own slot and nothing else (so that, `route` reading
nothing but the routing state, the next destination in the order takes over). -/
theorem c17_drop_next (st : State) (c : Ctx) :
    (∀ s, st.tl c.thread = some s →
      (step st c .dropTL).1.core = { st.core with tl := upd st.tl c.thread none }) ∧
    (∀ k s, st.rt k = some s →
      (step st c (.dropRT k)).1.core = { st.core with rt := upd st.rt k none }) ∧
    (∀ s, st.handle = some s →
      (step st c .dropAttach).1.core = { st.core with attached := none, handle := none }) ∧
    (∀ s, st.handle = some s →
      (step st c .forgetAttach).1.core = { st.core with handle := none }) := by
  simp only [step_core]
  exact ⟨fun _ _ => rfl, fun _ _ _ => rfl, fun s h => by simp only [Core.step, State.core, h], fun _ _ => rfl⟩

/-- A live attach handle was issued for the sink that is attached now. -/
def HandleOwns (st : State) : Prop := ∀ s, st.handle = some s → st.attached = some s

theorem handleOwns_init (a : Option Nat) : HandleOwns (State.init a) := fun _ h => nomatch h

theorem handleOwns_step (st : State) (c : Ctx) (op : Op) (h : HandleOwns st) : HandleOwns (step st c op).1 := by
  show ∀ s, (step st c op).1.core.handle = some s → (step st c op).1.core.attached = some s
  rw [step_core]
  cases op <;> try exact h
  case attach =>
    simp only [Core.step]; split
    · exact h
    · exact fun _ hs => hs
  case dropAttach =>
    simp only [Core.step]; split
    · exact fun _ hs => nomatch hs
    · exact h
  case forgetAttach => exact fun _ hs => nomatch hs

/-- **C17 a handle detaches its own sink.** In every state reachable from an initial state the live
`AttachHandle` (there is at most one) belongs to the currently attached sink, so dropping it
(`SINK.write().take()`) detaches that sink and never a later one. -/
theorem c17_handle_owns (a : Option Nat) (script : List (Ctx × Op)) :
    HandleOwns (run (State.init a) script).1 := by
  suffices ∀ st, HandleOwns st → HandleOwns (run st script).1 from this _ (handleOwns_init a)
  induction script with
  | nil => exact fun _ h => h
  | cons x rest ih => exact fun st h => ih _ (handleOwns_step st x.1 x.2 h)

def avoidsTL (t : Nat) (x : Ctx × Op) : Bool :=
  match x.2 with
  | .setTL _ | .dropTL => x.1.thread != t
  | _ => true

def avoidsRT (k : Nat) (x : Ctx × Op) : Bool :=
  match x.2 with
  | .setRT r _ | .dropRT r => r != k
  | .setRTCur _ => x.1.runtime != some k
  | _ => true

def avoidsAttach (x : Ctx × Op) : Bool :=
  match x.2 with
  | .attach _ | .dropAttach | .forgetAttach => false
  | _ => true

theorem Core.step_tl (k : Core) (t : Nat) (v : Option Nat) (c : Ctx) (op : Op) (hav : avoidsTL t (c, op) = true) :
    ({ k with tl := upd k.tl t v } : Core).step c op =
      { k.step c op with tl := upd (k.step c op).tl t v } := by
  obtain ⟨a, h, tl, rt⟩ := k
  cases op with
  | setTL s => exact congrArg (Core.mk a h · rt) (install_upd _ _ _ _ _ (bne_iff_ne.mp hav))
  | dropTL => exact congrArg (Core.mk a h · rt) (upd_comm _ _ _ _ _ (bne_iff_ne.mp hav).symm)
  | attach s => cases a <;> rfl
  | dropAttach => cases h <;> rfl
  | _ => rfl

theorem Core.step_rt (k : Core) (r : Nat) (v : Option Nat) (c : Ctx) (op : Op) (hav : avoidsRT r (c, op) = true) :
    ({ k with rt := upd k.rt r v } : Core).step c op =
      { k.step c op with rt := upd (k.step c op).rt r v } := by
  obtain ⟨a, h, tl, rt⟩ := k
  cases op with
  | setRT r' s => exact congrArg (Core.mk a h tl) (install_upd _ _ _ _ _ (bne_iff_ne.mp hav))
  | dropRT r' => exact congrArg (Core.mk a h tl) (upd_comm _ _ _ _ _ (bne_iff_ne.mp hav).symm)
  | setRTCur s =>
    cases hr : c.runtime with
    | none => simp only [Core.step, hr]
    | some r' =>
      have hc : r' ≠ r := fun e => bne_iff_ne.mp hav (e ▸ hr)
      simp only [Core.step, hr, install_upd _ _ _ _ _ hc]
  | attach s => cases a <;> rfl
  | dropAttach => cases h <;> rfl
  | _ => rfl

theorem Core.step_att (k : Core) (x y : Option Nat) (c : Ctx) (op : Op) (hav : avoidsAttach (c, op) = true) :
    ({ k with attached := x, handle := y } : Core).step c op =
      { k.step c op with attached := x, handle := y } := by
  cases op <;> first | rfl | cases hav

/-- A change `m` of the routing state with which every operation of a script commutes can be made
before the script or after it. -/
theorem run_core_comm (m : Core → Core) (P : Ctx × Op → Bool)
    (hm : ∀ k c op, P (c, op) = true → (m k).step c op = m (k.step c op))
    (a b : State) (h : a.core = m b.core) (mid : List (Ctx × Op)) (hav : mid.all P = true) :
    (run a mid).1.core = m (run b mid).1.core := by
  induction mid generalizing a b with
  | nil => exact h
  | cons x rest ih =>
    rw [List.all_cons, Bool.and_eq_true] at hav
    rw [run_cons, run_cons]
    refine ih _ _ ?_ hav.2
    rw [step_core, step_core, h, hm _ _ _ hav.1]

/-- **C17 restore (thread-local guard).** Install a thread-local test sink on thread `t`, run any
script that does not itself install or drop a thread-local sink *on that thread*, drop the guard:
the routing state (attached sink, handle, every thread's and every runtime's test sink) is exactly
what the same script produces without the guard — for every context, routing is as if the guard
had never existed. -/
theorem c17_restore_tl (st : State) (c c' : Ctx) (s : Nat) (mid : List (Ctx × Op))
    (hfree : st.tl c.thread = none) (hc : c'.thread = c.thread)
    (hav : mid.all (avoidsTL c.thread) = true) :
    (step st c (.setTL s)).2 = .ok ∧
    (step (run (step st c (.setTL s)).1 mid).1 c' .dropTL).2 = .ok ∧
    (step (run (step st c (.setTL s)).1 mid).1 c' .dropTL).1.core = (run st mid).1.core := by
  -- the script commutes with writing the slot of `c.thread`: with `some s` (the guarded run against
  -- the plain one), and with `none` (the plain run leaves the slot as empty as it found it)
  have h1 := run_core_comm _ _ (Core.step_tl · c.thread (some s)) (step st c (.setTL s)).1 st
    (by rw [step_core]; simp only [Core.step, install, State.core, hfree]) mid hav
  have h0 := run_core_comm _ _ (Core.step_tl · c.thread none) st st
    (by simp only [State.core, upd_self _ _ hfree]) mid hav
  refine ⟨by simp only [step, hfree], ?_⟩
  generalize run (step st c (.setTL s)).1 mid = X at h1 ⊢
  have hX : X.1.core.tl c'.thread = some s := by rw [h1, hc]; simp [upd]
  refine ⟨by rw [dropTL_some _ c' s hX], ?_⟩
  rw [step_core, h1]
  simp only [Core.step, hc, upd_same]
  exact h0.symm

/-- **C17 restore (runtime guard).** Same for the test sink of runtime `k`, installed from any
thread and dropped from any thread. -/
theorem c17_restore_rt (st : State) (c c' : Ctx) (k s : Nat) (mid : List (Ctx × Op))
    (hfree : st.rt k = none) (hav : mid.all (avoidsRT k) = true) :
    (step st c (.setRT k s)).2 = .ok ∧
    (step (run (step st c (.setRT k s)).1 mid).1 c' (.dropRT k)).2 = .ok ∧
    (step (run (step st c (.setRT k s)).1 mid).1 c' (.dropRT k)).1.core = (run st mid).1.core := by
  have h1 := run_core_comm _ _ (Core.step_rt · k (some s)) (step st c (.setRT k s)).1 st
    (by rw [step_core]; simp only [Core.step, install, State.core, hfree]) mid hav
  have h0 := run_core_comm _ _ (Core.step_rt · k none) st st
    (by simp only [State.core, upd_self _ _ hfree]) mid hav
  refine ⟨by simp only [step, setRuntime, hfree], ?_⟩
  generalize run (step st c (.setRT k s)).1 mid = X at h1 ⊢
  have hX : X.1.core.rt k = some s := by rw [h1]; simp [upd]
  refine ⟨by rw [dropRT_some _ c' k s hX], ?_⟩
  rw [step_core, h1]
  simp only [Core.step, upd_same]
  exact h0.symm

/-- **C17 restore (attach handle).** Attach a sink to a detached global, run any script without
attach-handle operations, drop the handle: the routing state is what the script produces on the
global that was never attached. -/
theorem c17_restore_attach (st : State) (c c' : Ctx) (s : Nat) (mid : List (Ctx × Op))
    (hfree : st.attached = none) (hown : HandleOwns st) (hav : mid.all avoidsAttach = true) :
    (step st c (.attach s)).2 = .ok ∧
    (step (run (step st c (.attach s)).1 mid).1 c' .dropAttach).2 = .ok ∧
    (step (run (step st c (.attach s)).1 mid).1 c' .dropAttach).1.core = (run st mid).1.core := by
  have hh : st.handle = none := by
    cases h : st.handle with
    | none => rfl
    | some x => cases hfree.symm.trans (hown x h)
  have h1 := run_core_comm _ _ (Core.step_att · (some s) (some s)) (step st c (.attach s)).1 st
    (by rw [step_core]; simp only [Core.step, State.core, hfree]) mid hav
  have h0 := run_core_comm _ _ (Core.step_att · none none) st st
    (by simp only [State.core, hfree, hh]) mid hav
  refine ⟨by simp only [step, hfree], ?_⟩
  generalize run (step st c (.attach s)).1 mid = X at h1 ⊢
  have hX : X.1.handle = some s := congrArg Core.handle h1
  refine ⟨by rw [dropAttach_some _ c' s hX], ?_⟩
  rw [step_core, h1]
  exact h0.symm

def okAll (trace : List (Nat × Nat × Bool)) : List (Nat × Nat) :=
  (trace.filter (fun x => x.2.2)).map (fun x => (x.1, x.2.1))

structure RaceInv (st : RaceState) : Prop where
  conserve : st.written ++ st.queue = okAll st.trace
  att : st.attached = true → st.written = [] ∧ st.closed = false
  det : st.attached = false → st.queue = [] ∧ st.closed = true

theorem raceInv_init : RaceInv RaceState.init := by
  constructor <;> simp [RaceState.init, okAll]

theorem okAll_append (trace : List (Nat × Nat × Bool)) (t k : Nat) (b : Bool) :
    okAll (trace ++ [(t, k, b)]) = okAll trace ++ if b then [(t, k)] else [] := by
  cases b <;> simp [okAll, List.filter_append]

theorem raceInv_step (st : RaceState) (ev : RaceEv) (h : RaceInv st) : RaceInv (raceStep st ev) := by
  obtain ⟨h1, h2, h3⟩ := h
  cases ev <;> cases ha : st.attached <;> simp only [raceStep, ha, if_true, Bool.false_eq_true, if_false]
  · exact ⟨by rw [okAll_append, h1]; exact (List.append_nil _).symm, Bool.noConfusion, fun _ => h3 ha⟩
  · exact ⟨by rw [okAll_append, ← List.append_assoc, h1]; rfl, fun _ => h2 ha, Bool.noConfusion⟩
  · exact ⟨h1, h2, h3⟩
  · exact ⟨by rw [List.append_nil]; exact h1, Bool.noConfusion, fun _ => ⟨rfl, rfl⟩⟩

theorem raceRun_induction {P : RaceState → Prop} (hstep : ∀ st ev, P st → P (raceStep st ev))
    (st : RaceState) (evs : List RaceEv) (h : P st) : P (raceRun st evs) := by
  induction evs generalizing st with
  | nil => exact h
  | cons ev rest ih => exact ih _ (hstep st ev h)

theorem detached_run (st : RaceState) (evs : List RaceEv) (h : st.attached = false) :
    (raceRun st evs).attached = false :=
  raceRun_induction (P := fun st => st.attached = false)
    (fun st ev h => by cases ev <;> simp [raceStep, h]) st evs h

theorem detach_mem_detached (st : RaceState) (evs : List RaceEv) (h : RaceEv.detach ∈ evs) :
    (raceRun st evs).attached = false := by
  induction evs generalizing st with
  | nil => nomatch h
  | cons ev rest ih =>
    rcases List.mem_cons.mp h with rfl | h
    · exact detached_run _ rest (by cases ha : st.attached <;> simp [raceStep, ha])
    · exact ih _ h

theorem okOf_eq (trace : List (Nat × Nat × Bool)) (t : Nat) :
    okOf trace t = (okAll trace).filter (fun x => x.1 == t) := by
  unfold okOf okAll
  rw [List.filter_map, List.filter_filter]
  rfl

/-- **C17 racing detach: exactly one place.** For every interleaving of `try_append`s (any threads,
any entries) with the drop of the attach handle: once the drop has happened the stream is closed,
nothing is left in the queue, and — thread by thread — what was written is exactly the sequence of
entries whose `try_append` returned `Ok`, in that thread's order. Entries handed back are never
written; entries accepted are never lost or duplicated. -/
theorem c17_race_exactly_one (evs : List RaceEv) (h : RaceEv.detach ∈ evs) (t : Nat) :
    let st := raceRun RaceState.init evs
    st.closed = true ∧ st.queue = [] ∧ st.written.filter (fun x => x.1 == t) = okOf st.trace t := by
  have hd := detach_mem_detached RaceState.init evs h
  obtain ⟨h1, _, h3⟩ := raceRun_induction raceInv_step _ evs raceInv_init
  obtain ⟨hq, hc⟩ := h3 hd
  refine ⟨hc, hq, ?_⟩
  rw [okOf_eq, ← h1, hq]; simp

/-- While still attached nothing has been lost either: written ++ queued = accepted, in order. -/
theorem c17_race_conserves (evs : List RaceEv) :
    let st := raceRun RaceState.init evs
    st.written ++ st.queue = okAll st.trace :=
  (raceRun_induction raceInv_step _ evs raceInv_init).conserve

/-- **The run-time predicate accepts every model history**: `raceAccept` (evaluated by the driver
on the histories recorded from the real threads) holds of every schedule of the model in which the
detach occurs (before it the stream is not closed, and `raceAccept` asks for a closed stream). -/
theorem c17_race_accept (evs : List RaceEv) (h : RaceEv.detach ∈ evs) :
    let st := raceRun RaceState.init evs
    raceAccept st.trace st.written st.closed = true := by
  intro st
  have hall := c17_race_exactly_one evs h
  simp only [raceAccept, Bool.and_eq_true, List.all_eq_true]
  exact ⟨(hall 0).1, fun t _ => beq_iff_eq.mpr (hall t).2.2⟩

theorem microStep_take (m : MState) (c : Ctx) :
    (microStep m (.take c)).1.st = (step m.st c .dropAttach).1 ∧
    (microStep m (.take c)).2 = some (step m.st c .dropAttach).2 := by
  cases h : m.st.handle <;> simp [microStep, step, h]

theorem microRun_cons (m : MState) (ev : Micro) (rest : List Micro) :
    microRun m (ev :: rest) =
      ((microRun (microStep m ev).1 rest).1,
        match (microStep m ev).2 with
        | some r => r :: (microRun (microStep m ev).1 rest).2
        | none => (microRun (microStep m ev).1 rest).2) := rfl

theorem microRun_linearize (m : MState) (evs : List Micro) :
    ((microRun m evs).1.st, (microRun m evs).2) = run m.st (linearize evs) := by
  induction evs generalizing m with
  | nil => rfl
  | cons ev rest ih =>
    cases ev with
    | op c o => rw [linearize, run_cons, ← ih ⟨(step m.st c o).1, m.dropping⟩]; rfl
    | take c =>
      obtain ⟨h1, h2⟩ := microStep_take m c
      rw [linearize, run_cons, ← h1, ← ih, microRun_cons, h2]
    | dropPair c => exact ih _

/-- **C17 attach/detach linearizable.** Split the drop of the attach handle into "take the pair out
of the slot" and "drop (flush) the pair", and let any operations of any threads take effect between
the two halves — and between the halves of several detaches. For every such interleaving, from every
state, there is a sequential order of the operations (`linearize`: every operation where it took
effect, each detach at its `take`; it is the interleaving with the `dropPair` events erased, so
program order and real-time order are kept) that produces the same routing state and the same
result for every operation. In particular an `attach` issued while the old pair is still being
flushed is an attach to an empty global: it succeeds and its sink is the one routed to afterwards. -/
theorem c17_detach_attach_linearizable (m : MState) (evs : List Micro) :
    ∃ seq : List (Ctx × Op), seq = linearize evs ∧
      (microRun m evs).1.st = (run m.st seq).1 ∧ (microRun m evs).2 = (run m.st seq).2 :=
  ⟨_, rfl, congrArg Prod.fst (microRun_linearize m evs), congrArg Prod.snd (microRun_linearize m evs)⟩

/-- How long the flush takes, and what happens meanwhile, is irrelevant: erasing the `dropPair`
events (an instantaneous drop) changes neither state nor results. -/
theorem c17_slow_drop_irrelevant (m : MState) (evs : List Micro) :
    (microRun m (evs.filter fun ev => match ev with | .dropPair _ => false | _ => true)).1.st = (microRun m evs).1.st ∧
    (microRun m (evs.filter fun ev => match ev with | .dropPair _ => false | _ => true)).2 = (microRun m evs).2 := by
  have lin : linearize (evs.filter fun ev => match ev with | .dropPair _ => false | _ => true) = linearize evs := by
    induction evs with
    | nil => rfl
    | cons ev rest ih => cases ev <;> simp [linearize, ih]
  exact Prod.mk.inj ((microRun_linearize m _).trans (lin ▸ (microRun_linearize m evs).symm))

/-- No state of the sequential model, whatever its history, hands an entry back (from a context
without test sink) and then refuses an `attach` as "already installed": handing back means nothing
is attached. -/
theorem c17_returned_then_attach_ok (st : State) (c c' : Ctx) (e e' s : Nat) (hts : testSink st c = none)
    (h : (step st c (.tryAppend e)).2 = .returned e') :
    (step (step st c (.tryAppend e)).1 c' (.attach s)).2 = .ok := by
  obtain ⟨_, hr, hst⟩ := c17_try_append_returns_unchanged st c e e' h
  rw [hst]
  have : st.attached = none := by simpa [route, hts] using hr
  simp [step, this]

/-- **Witness: clearing a cached "attached" flag after the slow drop is not linearizable.** In the
flag variant the schedule attach 1 · take · attach 2 (another thread) · dropPair · try_append · attach 3
lets the second attach succeed, then hands the entry back *and* refuses the third attach — a pair
of answers that by `c17_returned_then_attach_ok` no sequential order of any operations can produce
(hence it has no linearization), while the micro-step model of the code routes the entry to sink 2. -/
example :
    (flagRun ⟨none, none, false⟩ [.attach 1, .take, .attach 2, .dropPair, .tryAppend 7, .attach 3]).2
      = [.ok, .ok, .ok, .returned 7, .panic] ∧
    (microRun ⟨State.init none, []⟩
      [.op ⟨0, none⟩ (.attach 1), .take ⟨0, none⟩, .op ⟨1, none⟩ (.attach 2), .dropPair ⟨0, none⟩,
       .op ⟨2, none⟩ (.tryAppend 7), .op ⟨2, none⟩ (.attach 3)]).2
      = [.ok, .ok, .ok, .dest 2, .panic] := by
  decide

/-- Operations that only read the routing state (and deliver): what other threads hammer the global with. -/
def Op.isReader : Op → Bool
  | .append _ | .tryAppend _ | .sink _ | .trySink _ | .isAttached | .useHeld _ _ => true
  | _ => false

def eraseLog (st : State) : State := { st with log := [] }

theorem step_eraseLog (a b : State) (h : eraseLog a = eraseLog b) (c : Ctx) (op : Op) :
    eraseLog (step a c op).1 = eraseLog (step b c op).1 ∧ (step a c op).2 = (step b c op).2 := by
  obtain ⟨x1, x2, x3, x4, x5, l1⟩ := a
  obtain ⟨_, _, _, _, _, l2⟩ := b
  cases h
  have hr : route ⟨x1, x2, x3, x4, x5, l1⟩ c = route ⟨x1, x2, x3, x4, x5, l2⟩ c := rfl
  cases op <;> dsimp only [step, setRuntime] <;> (try rw [hr]) <;> (try split) <;> (try split) <;>
    exact ⟨rfl, rfl⟩

theorem reader_neutral (st : State) (c : Ctx) (op : Op) (h : op.isReader = true) :
    eraseLog (step st c op).1 = eraseLog st := by
  cases op <;> first | exact Bool.noConfusion h | rfl | (dsimp only [step]; split <;> rfl)

def writerResults : List (Ctx × Op) → List Res → List Res
  | (_, op) :: rest, r :: rs => if op.isReader then writerResults rest rs else r :: writerResults rest rs
  | _, _ => []

/-- **C17 readers are neutral (guard drops are atomic w.r.t. the registry).** Interleave any number
of routed reads / appends of any threads anywhere into a script: every install, drop, attach, detach
of the script answers exactly what it answers without them, and the final routing state (everything
but the delivery log) is the same. In particular a guard drop removes its sink no matter what other
threads are doing with the global at that instant: the model has no "busy" outcome. -/
theorem c17_readers_neutral (st : State) (script : List (Ctx × Op)) :
    eraseLog (run st script).1 = eraseLog (run st (script.filter fun x => !x.2.isReader)).1 ∧
    writerResults script (run st script).2 = (run st (script.filter fun x => !x.2.isReader)).2 := by
  -- the two runs are in states that differ in the log only
  suffices ∀ a b, eraseLog a = eraseLog b →
      eraseLog (run a script).1 = eraseLog (run b (script.filter fun x => !x.2.isReader)).1 ∧
      writerResults script (run a script).2 = (run b (script.filter fun x => !x.2.isReader)).2 from
    this st st rfl
  induction script with
  | nil => exact fun a b h => ⟨h, rfl⟩
  | cons x rest ih =>
    intro a b h
    obtain ⟨c, op⟩ := x
    rw [run_cons, writerResults, List.filter_cons]
    cases hr : op.isReader with
    | true => exact ih _ _ ((reader_neutral a c op hr).trans h)
    | false =>
      obtain ⟨h1, h2⟩ := step_eraseLog a b h c op
      rw [h2]
      exact ⟨(ih _ _ h1).1, congrArg ((step b c op).2 :: ·) (ih _ _ h1).2⟩

/-- **C17 a guard drop is effective.** Dropping the guard of runtime `k` (it answers `ok`) always
clears the entry: a re-install for `k` succeeds and routing of a context inside `k` without
thread-local sink falls through to the attached sink. -/
theorem c17_drop_rt_effective (st : State) (c c' c'' : Ctx) (k s s' : Nat) (h : st.rt k = some s) :
    (step st c (.dropRT k)).2 = .ok ∧
    (step (step st c (.dropRT k)).1 c' (.setRT k s')).2 = .ok ∧
    (c''.runtime = some k → st.tl c''.thread = none →
      route (step st c (.dropRT k)).1 c'' = st.attached) := by
  refine ⟨by simp [step, h], by simp [step, h, setRuntime, upd], ?_⟩
  intro hr ht
  simp [step, h, route, testSink, ht, hr, upd]

/-- A variant that is *not* the code: the guard drop skips the removal when the registry is busy
(`try_lock`), yet the guard is gone. -/
def stepSkip (st : State) (c : Ctx) (op : Op) (busy : Bool) : State × Res :=
  match op, busy with
  | .dropRT k, true => (st, if (st.rt k).isSome then .ok else .noop)
  | _, _ => step st c op

def runSkip (st : State) : List (Ctx × Op × Bool) → State × List Res
  | [] => (st, [])
  | (c, op, busy) :: rest =>
    let (st1, r) := stepSkip st c op busy
    let (st2, rs) := runSkip st1 rest
    (st2, r :: rs)

/-- **Witness: skip-on-contention violates C17.** With the registry busy at the drop, the dropped
test sink keeps receiving the runtime's entries and the re-install panics — against
`c17_drop_rt_effective` (and `c17_drop_next`); without contention the variant is the model. -/
example :
    (runSkip (State.init none)
      [(⟨0, none⟩, .setRT 0 5, false), (⟨0, none⟩, .dropRT 0, true),
       (⟨1, some 0⟩, .tryAppend 7, false), (⟨0, none⟩, .setRT 0 6, false)]).2
      = [.ok, .ok, .dest 5, .panic] ∧
    (run (State.init none)
      [(⟨0, none⟩, .setRT 0 5), (⟨0, none⟩, .dropRT 0), (⟨1, some 0⟩, .tryAppend 7), (⟨0, none⟩, .setRT 0 6)]).2
      = [.ok, .ok, .returned 7, .ok] := by
  decide

theorem flushOrdered_locked (evs : List Micro) :
    ∀ m : MState, m.dropping = [] → locked evs = true → flushOrdered m evs = true := by
  -- between the events of a locked schedule no taken pair is waiting to be dropped
  induction evs using locked.induct with
  | case1 => exact fun _ _ _ => rfl
  | case2 c o rest ih =>
    intro m hd hl
    simp only [flushOrdered, hd, List.isEmpty_nil, Bool.or_true, Bool.true_and]
    exact ih _ hd hl
  | case3 c c' rest ih =>
    intro m hd hl
    simp only [flushOrdered, Bool.true_and]
    refine ih _ ?_ hl
    cases h : m.st.handle <;> simp [microStep, h, hd]
  | case4 c rest hne => exact fun _ _ hl => Bool.noConfusion ((locked.eq_4 c rest hne).symm.trans hl)
  | case5 c rest ih =>
    intro m hd hl
    simp only [flushOrdered, Bool.true_and]
    exact ih _ (by simp [microStep, hd]) hl

/-- **C17 routing is restored only after the flush.** In the micro-step model *with readers* (any
operations of any threads interleaved anywhere): on a `locked` schedule — the code's detach, the
taken pair is dropped while the write lock of the `take` is still held — every operation that
observes the detached state (`seesDetached`) takes effect after the detached sink's flush has
completed (`flushOrdered`). Together with `c17_detach_attach_linearizable` (`linearize` of a locked
schedule is the schedule with each `take · dropPair` read as one atomic `dropAttach`): the detach is
atomic, flush included. -/
theorem c17_detach_flushes_before_detached_is_observed (st : State) (evs : List Micro)
    (h : locked evs = true) : flushOrdered ⟨st, []⟩ evs = true :=
  flushOrdered_locked evs ⟨st, []⟩ rfl h

/-- **Witness: take under the lock, drop the pair after releasing it.** The reader's `try_append`
takes effect between `take` and `dropPair`: it is handed its entry back while the detached sink is
still flushing (`flushOrdered = false`), although results and final state are those of a
sequential order (`c17_detach_attach_linearizable`: nothing is lost or misrouted — the violation is
one of ordering only). The locked schedule of the same operations is flush-ordered. -/
example :
    flushOrdered ⟨State.init none, []⟩
      [.op ⟨0, none⟩ (.attach 1), .take ⟨0, none⟩, .op ⟨1, none⟩ (.tryAppend 7), .dropPair ⟨0, none⟩] = false ∧
    flushOrdered ⟨State.init none, []⟩
      [.op ⟨0, none⟩ (.attach 1), .take ⟨0, none⟩, .op ⟨1, none⟩ (.attach 2), .dropPair ⟨0, none⟩] = false ∧
    (microRun ⟨State.init none, []⟩
      [.op ⟨0, none⟩ (.attach 1), .take ⟨0, none⟩, .op ⟨1, none⟩ (.tryAppend 7), .dropPair ⟨0, none⟩]).2
      = [.ok, .ok, .returned 7] ∧
    locked [.op ⟨0, none⟩ (.attach 1), .take ⟨0, none⟩, .dropPair ⟨0, none⟩, .op ⟨1, none⟩ (.tryAppend 7)] = true ∧
    flushOrdered ⟨State.init none, []⟩
      [.op ⟨0, none⟩ (.attach 1), .take ⟨0, none⟩, .dropPair ⟨0, none⟩, .op ⟨1, none⟩ (.tryAppend 7)] = true := by
  decide

/-- A populated state: sink 1 attached (handle live), thread 2 has test sink 7, runtime 0 has test
sink 9. Thread 2 inside runtime 0 → 7; thread 0 inside runtime 0 → 9; thread 0 outside → 1; a
second attach / thread-local install panics and the next append still goes where it went before;
dropping thread 2's guard sends thread 2 (inside runtime 0) to 9, dropping the runtime guard to 1,
dropping the handle hands the entry back. -/
example :
    (run (State.init none)
      [(⟨0, none⟩, .attach 1), (⟨2, none⟩, .setTL 7), (⟨1, none⟩, .setRT 0 9),
       (⟨2, some 0⟩, .append 100), (⟨0, some 0⟩, .append 101), (⟨0, none⟩, .append 102),
       (⟨4, none⟩, .attach 5), (⟨2, some 1⟩, .setTL 6), (⟨3, none⟩, .setRTCur 4),
       (⟨2, some 0⟩, .append 103),
       (⟨2, none⟩, .dropTL), (⟨2, some 0⟩, .tryAppend 104),
       (⟨3, none⟩, .dropRT 0), (⟨2, some 0⟩, .tryAppend 105),
       (⟨1, none⟩, .dropAttach), (⟨2, some 0⟩, .tryAppend 106), (⟨2, some 0⟩, .append 107)]).2
    = [.ok, .ok, .ok, .dest 7, .dest 9, .dest 1, .panic, .panic, .panic, .dest 7,
       .ok, .dest 9, .ok, .dest 1, .ok, .returned 106, .panic] := by
  decide

/-- The hypotheses of `c17_restore_tl` are satisfiable with a non-trivial middle script (another
thread installs its own test sink, a runtime sink is installed, an attach panics). -/
example : (State.init (some 3)).tl 2 = none ∧
    ([(⟨1, none⟩, .setTL 8), (⟨0, none⟩, .setRT 1 4), (⟨2, some 1⟩, .append 5), (⟨0, none⟩, .attach 6)]
      : List (Ctx × Op)).all (avoidsTL 2) = true := by
  decide

/-- A race in which the detach lands between two appends of thread 0 and after the only append of
thread 1: accepted entries are written in order, the later ones are handed back. -/
example :
    let st := raceRun RaceState.init [.tryAppend 0 0, .tryAppend 1 0, .tryAppend 0 1, .detach, .tryAppend 0 2, .tryAppend 1 1]
    st.written = [(0, 0), (1, 0), (0, 1)] ∧ st.trace.map (·.2.2) = [true, true, true, false, false] ∧
    raceAccept st.trace st.written st.closed = true ∧
    raceAccept st.trace [(0, 0), (0, 1)] true = false ∧          -- a lost entry is rejected
    raceAccept st.trace [(0, 0), (1, 0), (0, 1), (0, 2)] true = false := by  -- handed back *and* written is rejected
  decide

end Global

#print axioms Global.c17_precedence
#print axioms Global.c17_routed
#print axioms Global.c17_exactly_one
#print axioms Global.c17_no_entry_no_delivery
#print axioms Global.c17_try_append_returns_unchanged
#print axioms Global.c17_log_is_results
#print axioms Global.c17_panics_preserve
#print axioms Global.c17_panics_transparent
#print axioms Global.c17_panic_iff
#print axioms Global.c17_handle_owns
#print axioms Global.c17_restore_tl
#print axioms Global.c17_restore_rt
#print axioms Global.c17_restore_attach
#print axioms Global.c17_drop_next
#print axioms Global.c17_race_exactly_one
#print axioms Global.c17_race_conserves
#print axioms Global.c17_race_accept
#print axioms Global.c17_detach_attach_linearizable
#print axioms Global.c17_slow_drop_irrelevant
#print axioms Global.c17_returned_then_attach_ok
#print axioms Global.c17_readers_neutral
#print axioms Global.c17_drop_rt_effective
#print axioms Global.c17_detach_flushes_before_detached_is_observed
