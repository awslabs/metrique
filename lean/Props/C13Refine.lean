import Props.C06Refine
/-!
# C13 — the slot clauses of the specification predicate hold of every history of the model

Corollary of `c06_model_histories_accepted` (`Props/C06Refine.lean`): the simulation proved there discharges the
`slotsOk` clause of `Spec.feed (.app …)` from the C13 invariants `SlotOk` / `SInv` (`slotOk_of_sim` in
`Props/C06RefineB.lean`).
-/
namespace KeepAlive
open Spec

theorem accept_app_inv {t : SSt} {pre rest : List Obs} {p h : Nat} {vs : List (Option Nat)}
    (hacc : acceptFrom t (pre ++ .app p h vs :: rest) = true) :
    ∃ t1, feedAll t pre = some t1 ∧ t1.apps = 0 ∧ Spec.cond t1 = true ∧ p = t1.plain ∧ h = t1.hits ∧
      slotsOk (t1.dgBegun > 0) t1.slots vs = true := by
  rw [acceptFrom_append] at hacc
  cases hf : feedAll t pre with
  | none => simp [hf] at hacc
  | some t1 =>
    simp only [hf, acceptFrom, feedChecked] at hacc
    refine ⟨t1, rfl, ?_⟩
    cases hfe : feed t1 (.app p h vs) with
    | none => simp [hfe] at hacc
    | some t2 =>
      simp only [feed] at hfe
      split at hfe
      · rename_i hc
        simp only [Bool.and_eq_true, decide_eq_true_eq] at hc
        obtain ⟨⟨⟨⟨a, b⟩, c⟩, d⟩, e⟩ := hc
        exact ⟨a, b, c, d, e⟩
      · cases hfe

/-- **C13 refinement: the slot clauses of the specification hold of every model history.**  Whenever the history
of a schedule contains an append `app p h vs`, the slot values `vs` satisfy `Spec.slotsOk` in the automaton state
reached by the observations before it: a field is absent if its guard's drop had not begun; in wait mode with no
force-flush guard begun, or if the guard's drop returned while the append was still impossible, it carries the
guard's last value; otherwise it is absent or the last value. -/
theorem c13_model_histories_accepted (cfg : List (Bool × Nat)) (evs : List Ev) {pre rest : List Obs}
    {p h : Nat} {vs : List (Option Nat)} (hh : historyOf (cfg.map fresh) evs = pre ++ .app p h vs :: rest) :
    ∃ t1, feedAll (start cfg.length) pre = some t1 ∧ slotsOk (t1.dgBegun > 0) t1.slots vs = true := by
  have hacc := c06_model_histories_accepted cfg evs
  rw [hh] at hacc
  obtain ⟨t1, h1, -, -, -, -, h6⟩ := accept_app_inv hacc
  exact ⟨t1, h1, h6⟩

/-- two threads and a wait-mode slot: the owner, the slot guard (whose thread drops the last guard-cell
reference and runs the destructor: its `eG` comes after the `app`) -/
example : historyOf [fresh (false, 3)] [.newFG, .open 0 .wait 0, .gmut 0 9, .refDrop, .gSend 0, .pDecV, .pDecG,
            .gRelease 0, .innerDrop, .closeSlot, .emit]
    = [.nF, .opn 0 .wait 3, .gm 0 9, .bR, .bG 0, .eR, .app 0 0 [some 9], .eG 0] := by decide

example : Spec.accept 1 [.nF, .opn 0 .wait 3, .gm 0 9, .bR, .bG 0, .eR, .app 0 0 [some 9], .eG 0] = true := by decide

/-- a corrupted history — the wait-mode slot value lost — is rejected -/
example : Spec.accept 1 [.nF, .opn 0 .wait 3, .gm 0 9, .bR, .bG 0, .eR, .app 0 0 [none], .eG 0] = false := by decide

/-- … and so is a value that is neither absent nor the guard's last one (discard mode) -/
example : Spec.accept 1 [.opn 0 .discard 3, .gm 0 9, .bR, .bG 0, .eG 0, .app 0 0 [some 3], .eR] = false := by decide
example : Spec.accept 1 [.opn 0 .discard 3, .gm 0 9, .bR, .bG 0, .eG 0, .app 0 0 [none], .eR] = true := by decide

end KeepAlive

#print axioms KeepAlive.c13_model_histories_accepted
