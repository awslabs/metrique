import Props.C09
/-!
# C05 — shutdown drains, flushes and closes the stream; the writer thread terminates

Theorems about `Queue.step` for every sequence of push / clone / drop-handle / flush / forget /
drop-join events and every interleaving with the writer's micro-steps.
-/
namespace Queue

/-- the writer is inside `shut_down` (or done) -/
def shutPhase : WPc → Bool
  | .shutDrain _ => true
  | .shutHolding _ _ => true
  | .shutFlush => true
  | .exited => true
  | _ => false

/-- the writer has finished the drain loop of `shut_down` -/
def drainDone : WPc → Bool
  | .shutFlush => true
  | .exited => true
  | _ => false

/-- calls on the stream object -/
def Obs.isStreamCall : Obs → Bool
  | .next _ _ => true
  | .report => true
  | .flush => true
  | .closed => true
  | _ => false

/-- number of pushes that `drop(join_handle)` promises to have written: those before the shutdown
flag was stored (all of them if the thread shut down because no handle was left) -/
def promised (s : QState) : Nat := if s.shutdown then s.shutMark else s.pushOrder.length

structure ShutInv (s : QState) : Prop where
  /-- `shut_down` is entered only after the flag was seen or no handle was left -/
  why : shutPhase s.wpc = true → s.shutdown = true ∨ s.handles = 0
  flag : s.shutdown = true ↔ (s.join = .stored ∨ s.join = .joining ∨ s.join = .joined)
  joined : s.join = .joined → s.wpc = .exited
  mark : s.shutMark ≤ s.pushOrder.length
  drained : drainDone s.wpc = true → s.shutHit = false →
    ∀ e ∈ s.pushOrder.take (promised s), e ∈ delivered s.log ∨ e ∈ displaced s.log
  notClosed : s.wpc ≠ .exited → Obs.closed ∉ s.log
  closedLast : s.wpc = .exited → ∃ pre tail, s.log = pre ++ [Obs.flush, Obs.closed] ++ tail ∧
    (∀ o ∈ tail, o.isStreamCall = false) ∧ Obs.closed ∉ pre

theorem accounted_append {log : List Obs} (added : List Obs) {e : Ent}
    (he : e ∈ delivered log ∨ e ∈ displaced log) : e ∈ delivered (log ++ added) ∨ e ∈ displaced (log ++ added) := by
  rw [delivered_append, displaced_append]
  exact he.imp (List.mem_append_left _) (List.mem_append_left _)

theorem closedLast_append {log added : List Obs}
    (h : ∃ pre tail, log = pre ++ [Obs.flush, Obs.closed] ++ tail ∧ (∀ o ∈ tail, o.isStreamCall = false) ∧ Obs.closed ∉ pre)
    (ha : ∀ o ∈ added, o.isStreamCall = false) :
    ∃ pre tail, log ++ added = pre ++ [Obs.flush, Obs.closed] ++ tail ∧ (∀ o ∈ tail, o.isStreamCall = false) ∧
      Obs.closed ∉ pre := by
  obtain ⟨pre, tail, hl, ht, hp⟩ := h
  exact ⟨pre, tail ++ added, by rw [hl, List.append_assoc], fun o ho => (List.mem_append.mp ho).elim (ht o) (ha o), hp⟩

theorem closed_not_mem_consumeObs {s : QState} {c : Clock} {e : Ent} : Obs.closed ∉ consumeObs s c e :=
  fun h => (mem_consumeObs h).elim nofun nofun

theorem ShutInv.running {s s' : QState} (hi : ShutInv s) (hne : s.wpc ≠ .exited) (hq : shutPhase s'.wpc = false)
    (hsd : s'.shutdown = s.shutdown) (hj : s'.join = s.join) (hm : s'.shutMark = s.shutMark)
    (hpo : s'.pushOrder = s.pushOrder) (hcl : Obs.closed ∈ s'.log → Obs.closed ∈ s.log) : ShutInv s' := by
  refine ⟨fun h => ?_, by rw [hsd, hj]; exact hi.flag, fun h => absurd (hi.joined (hj ▸ h)) hne,
    by rw [hm, hpo]; exact hi.mark, fun h => ?_, fun _ h => hi.notClosed hne (hcl h), fun h => ?_⟩
  · rw [hq] at h; cases h
  · cases hpc : s'.wpc <;> rw [hpc] at h hq <;> contradiction
  · rw [h] at hq; cases hq

theorem shutInv_step {s s' : QState} {ev : Ev} (hc : Conserve s) (hi : ShutInv s) (h : Step s ev s') :
    ShutInv s' := by
  -- once the final drain is over the shutdown flag is set (a push needs a handle), so `promised` is fixed
  have hpush : s.handles ≠ 0 → ∀ x : Ent, drainDone s.wpc = true → s.shutHit = false →
      ∀ e ∈ (s.pushOrder ++ [x]).take (if s.shutdown = true then s.shutMark else (s.pushOrder ++ [x]).length),
        e ∈ delivered s.log ∨ e ∈ displaced s.log := by
    intro hh x hd hhit e he
    have hsd : s.shutdown = true :=
      (hi.why (by revert hd; cases s.wpc <;> simp [drainDone, shutPhase])).resolve_right hh
    rw [if_pos hsd, List.take_append_of_le_length hi.mark] at he
    exact hi.drained hd hhit e (by rwa [promised, if_pos hsd])
  cases h
  case clone hh => exact { hi with why := fun h => (hi.why h).imp_right fun h0 => absurd h0 hh }
  case dropHandle => exact { hi with why := fun h => (hi.why h).imp_right fun h0 => by simp [h0] }
  case forget hj | dropJoinUnpark hj => exact { hi with flag := by simpa [hj] using hi.flag, joined := nofun }
  case dropJoinBegin hj =>
    have hsd : s.shutdown = false := by simpa [hj] using hi.flag
    exact { hi with
      why := fun _ => .inl rfl, flag := by simp, joined := nofun, mark := Nat.le_refl _,
      drained := fun hd hh => by simpa [promised, hsd] using hi.drained hd hh }
  case dropJoinEnd hj hex =>
    have hsd : s.shutdown = true := hi.flag.mpr (.inr (.inl hj))
    exact { hi with
      flag := by simp [hsd], joined := fun _ => hex,
      drained := fun hd hh e he => accounted_append _ (hi.drained hd hh e he), notClosed := fun hne => absurd hex hne,
      closedLast := fun _ => closedLast_append (hi.closedLast hex) (by simp [Obs.isStreamCall]) }
  case flushDead hex =>
    exact { hi with
      drained := fun hd hh e he => accounted_append _ (hi.drained hd hh e he), notClosed := fun hne => absurd hex hne,
      closedLast := fun _ => closedLast_append (hi.closedLast hex) (by simp [Obs.isStreamCall]) }
  case push p hh _ => exact { hi with mark := Nat.le_trans hi.mark (by simp), drained := hpush hh _ }
  case pushFull p d t hh _ _ =>
    exact { hi with
      mark := Nat.le_trans hi.mark (by simp),
      drained := fun hd hhit e he => accounted_append _ (hpush hh _ hd hhit e he),
      notClosed := fun hne hm => (List.mem_append.mp hm).elim (hi.notClosed hne) (by simp),
      closedLast := fun hex => closedLast_append (hi.closedLast hex) (by simp [Obs.isStreamCall]) }
  case w c hw =>
    have hne := hw.ne_exited
    have hnc := hi.notClosed hne
    have hnj : s.join ≠ .joined := fun hj => hne (hi.joined hj)
    cases hw
    case sawShutdown _ hsd =>
      exact ⟨fun _ => .inl hsd, hi.flag, fun hj => absurd hj hnj, hi.mark, fun h => Bool.noConfusion h, fun _ => hnc,
        fun h => WPc.noConfusion h⟩
    case noHandles _ hh =>
      exact ⟨fun _ => .inr hh, hi.flag, fun hj => absurd hj hnj, hi.mark, fun h => Bool.noConfusion h, fun _ => hnc,
        fun h => WPc.noConfusion h⟩
    case shutDrained n hpc hr =>
      refine ⟨fun _ => hi.why (hpc ▸ rfl), hi.flag, fun hj => absurd hj hnj, hi.mark, fun _ _ e he => ?_,
        fun _ => hnc, nofun⟩
      -- nothing is in flight any more
      rcases hc.accounted (List.mem_of_mem_take he) with h | h | h
      · exact .inl h
      · exact .inr h
      · rw [hpc, hr] at h; cases h
    case shutPop n e t hpc hr =>
      exact ⟨fun _ => hi.why (hpc ▸ rfl), hi.flag, fun hj => absurd hj hnj, hi.mark, fun h => Bool.noConfusion h,
        fun _ => hnc, fun h => WPc.noConfusion h⟩
    case shutConsume e n hpc _ | shutConsumeHit e n hpc _ =>
      exact ⟨fun _ => hi.why (hpc ▸ rfl), hi.flag, fun hj => absurd hj hnj, hi.mark, nofun,
        fun _ hm => (List.mem_append.mp hm).elim hnc closed_not_mem_consumeObs, fun h => WPc.noConfusion h⟩
    case shutFlush hpc =>
      refine ⟨fun _ => hi.why (hpc ▸ rfl), hi.flag, fun _ => rfl, hi.mark, fun _ hh e he => ?_, fun h => absurd rfl h,
        fun _ => ⟨s.log, (s.waiting ++ s.sigs).map (Obs.completed · false), rfl, ?_, hnc⟩⟩
      · exact List.append_assoc .. ▸ accounted_append _ (hi.drained (hpc ▸ rfl) hh e he)
      · intro o ho; obtain ⟨i, _, rfl⟩ := List.mem_map.mp ho; rfl
    case consume e n hpc _ | consumeHit e n hpc _ =>
      exact hi.running hne rfl rfl rfl rfl rfl fun hm =>
        (List.mem_append.mp hm).elim id fun h => absurd h closed_not_mem_consumeObs
    case wake | outerFlush =>
      exact hi.running hne rfl rfl rfl rfl rfl fun hm => (List.mem_append.mp hm).elim id (by simp)
    all_goals exact hi.running hne rfl rfl rfl rfl rfl id
  all_goals exact { hi with }

theorem shutInv_reachable {s : QState} (hr : Reachable s) : ShutInv s :=
  hr.inv (fun _ _ _ => ⟨nofun, by simp [init], nofun, Nat.le_refl _, nofun, fun _ => List.not_mem_nil, nofun⟩)
    fun _ _ _ hr' hi h => shutInv_step (conserve_reachable hr') hi h

/-- **Join path.** Whenever the writer thread has exited — in particular whenever
`drop(join_handle)` has returned (`join = joined` is only reachable then) — and the
`shutdown_timeout` deadline did not fire inside `shut_down`: every entry pushed before the
shutdown flag was stored (every pushed entry at all, if the thread stopped because no handle was
left) has been handed to the stream or was displaced by overflow; the history of stream calls ends
with `flush`, `closed`; the stream was closed exactly once; and nothing is handed to, flushed on or
done with the stream afterwards. -/
theorem c05_join_drains {s : QState} (hr : Reachable s) (hex : s.wpc = .exited) :
    (s.shutHit = false → ∀ e ∈ s.pushOrder.take (promised s), e ∈ delivered s.log ∨ e ∈ displaced s.log) ∧
    ∃ pre tail, s.log = pre ++ [Obs.flush, Obs.closed] ++ tail ∧ (∀ o ∈ tail, o.isStreamCall = false) ∧
      Obs.closed ∉ pre := by
  have hi := shutInv_reachable hr
  exact ⟨hi.drained (by rw [hex]; rfl), hi.closedLast hex⟩

/-- `drop(join_handle)` returns only after the thread has exited (so `c05_join_drains` applies),
and the drop stored the shutdown flag before. -/
theorem c05_join_returns_after_exit {s : QState} (hr : Reachable s) (hj : s.join = .joined) :
    s.wpc = .exited ∧ s.shutdown = true ∧ Obs.closed ∈ s.log := by
  have hi := shutInv_reachable hr
  have hex := hi.joined hj
  obtain ⟨pre, tail, hl, _, _⟩ := hi.closedLast hex
  exact ⟨hex, hi.flag.mpr (.inr (.inr hj)), by rw [hl]; simp⟩

/-- The stream is never closed while the thread is still running. -/
theorem c05_not_closed_while_running {s : QState} (hr : Reachable s) (hne : s.wpc ≠ .exited) :
    Obs.closed ∉ s.log :=
  (shutInv_reachable hr).notClosed hne

/-- **The stream is always flushed before it is closed — also when the shutdown timeout fires.**
No hypothesis about `shutdown_timeout`: in every reachable state in which the stream has been
dropped, the history is `pre ++ [flush, closed] ++ tail`: the call immediately before `closed` is a
`flush` (so it comes after the last entry that was handed to the stream, however many were left
behind by an expired timeout), the stream was closed once, and no stream call follows. -/
theorem c05_close_preceded_by_flush {s : QState} (hr : Reachable s) (hcl : Obs.closed ∈ s.log) :
    ∃ pre tail, s.log = pre ++ [Obs.flush, Obs.closed] ++ tail ∧ (∀ o ∈ tail, o.isStreamCall = false) ∧
      Obs.closed ∉ pre := by
  have hi := shutInv_reachable hr
  by_cases hex : s.wpc = .exited
  · exact hi.closedLast hex
  · exact absurd hcl (hi.notClosed hex)

/-- The same at the level of one step: whatever the final drain did (`Drained` or cut by the timeout),
the last step of `shut_down` flushes, then drops the stream, and only then are the pending flush
wakers released. -/
theorem c05_shutdown_step_flushes {s : QState} (c : Clock) (hpc : s.wpc = .shutFlush) :
    ∃ s', wstep s c = some s' ∧ s'.wpc = .exited ∧
      s'.log = s.log ++ [.flush, .closed] ++ (s.waiting ++ s.sigs).map (Obs.completed · false) := by
  unfold wstep; rw [hpc]; exact ⟨_, rfl, rfl, rfl⟩

/-- Where the final drain goes: from `shutDrain` with an empty ring to that step; from `shutHolding` to that
step or on to `shutDrain (n + 1)` (the statement does not say when: in `wstep`, to that step iff the timeout
fires at a multiple of 32 entries). -/
theorem c05_final_drain_always_reaches_flush {s s' : QState} {c : Clock} (h : wstep s c = some s') :
    (∀ n, s.wpc = .shutDrain n → s.ring = [] → s'.wpc = .shutFlush) ∧
    (∀ e n, s.wpc = .shutHolding e n → (s'.wpc = .shutFlush ∨ s'.wpc = .shutDrain (n + 1))) := by
  constructor
  · intro n hpc hr
    unfold wstep at h; rw [hpc] at h; simp [hr] at h; rw [← h]
  · intro e n hpc
    unfold wstep at h; rw [hpc] at h; simp at h; rw [← h]
    dsimp only; split <;> simp

theorem exited_step {s s' : QState} {ev : Ev} (hex : s.wpc = .exited) (h : Step s ev s') :
    s'.wpc = .exited ∧ delivered s'.log = delivered s.log := by
  cases h
  case w c hw => exact absurd hex hw.ne_exited
  case pushFull | flushDead | dropJoinEnd => exact ⟨hex, by simp⟩
  all_goals exact ⟨hex, rfl⟩

/-- **Entries appended after shutdown are discarded.** Once the thread has exited, whatever happens
afterwards (more pushes through surviving handles, flushes, clones, drops): the thread stays
exited, the stream receives nothing more, and no entry pushed from then on is ever written. -/
theorem c05_after_shutdown_discarded {s s' : QState} (hr : Reachable s) (hex : s.wpc = .exited) (evs : List Ev)
    (h : run s evs = some s') :
    s'.wpc = .exited ∧ delivered s'.log = delivered s.log ∧
      ∀ e ∈ s'.pushOrder, e ∉ s.pushOrder → e ∉ delivered s'.log := by
  have key : s'.wpc = .exited ∧ delivered s'.log = delivered s.log :=
    run_inv (P := fun t => t.wpc = .exited ∧ delivered t.log = delivered s.log)
      (fun _ _ _ hp h1 => (exited_step hp.1 (step_inv h1)).imp_right (·.trans hp.2)) ⟨hex, rfl⟩ h
  refine ⟨key.1, key.2, ?_⟩
  intro e _ hnot hd
  rw [key.2] at hd
  exact hnot ((c09_order_with_overflow hr).2.1.subset hd)

/-- **Forget path** (the defect fixed by commit 23bc461 — `run` kept a second `Arc`, so this test
never succeeded): once no queue handle is left, the `Arc::get_mut` test of the next outer-loop
iteration sends the writer into `shut_down`, whatever the clock says; and no handle can come back. -/
theorem c05_forget_path {s : QState} (c : Clock) (hpc : s.wpc = .checkHandles) (hh : s.handles = 0) :
    wstep s c = some { s with wpc := .shutDrain 0 } ∧
    ∀ ev s', step s ev = some s' → s'.handles = 0 := by
  refine ⟨by unfold wstep; rw [hpc]; simp [hh], ?_⟩
  intro ev s' h
  cases step_inv h
  case push h0 _ | pushFull h0 _ _ | clone h0 | dropHandle h0 => exact absurd hh h0
  case w c' hw => cases hw <;> exact hh
  all_goals exact hh

/-- a clock on which time passes: `park_deadline` returns and `next_flush` is reached -/
def Clock.passes (c : Clock) : Prop := c.parkWake = true ∧ c.pastNextFlush = true

def rank (s : QState) : Nat :=
  match s.wpc with
  | .exited => 0
  | .shutFlush => 1
  | .shutDrain _ => 2
  | .shutHolding _ _ => 3
  | .checkHandles => if s.handles = 0 then 4 else 13
  | .checkShutdown => 5
  | .outerFlush => 6
  | .checkTime => 7
  | .parking => 8
  | .postHww _ => 9
  | .afterDrain _ _ => 10
  | .drain _ => 11
  | .holding _ _ => 12

/-- termination measure: at most `2·|ring| + 13` writer steps remain -/
def measure (s : QState) : Nat := 2 * s.ring.length + rank s

theorem WStep.measure_lt {s s' : QState} {c : Clock} (h : WStep s c s') (hpf : c.pastNextFlush = true)
    (hH : s.shutdown = true ∨ s.handles = 0) :
    measure s' < measure s ∧ s'.shutdown = s.shutdown ∧ s'.handles = s.handles := by
  cases h
  case pop | shutPop => exact ⟨by simp [measure, rank, *]; omega, rfl, rfl⟩
  case timeDrain h => exact nomatch hpf.symm.trans h
  case noShutdown hsd =>
    have hh := hH.resolve_left (by simp [hsd])
    exact ⟨by simp [measure, rank, *], rfl, rfl⟩
  all_goals exact ⟨by simp [measure, rank, *], rfl, rfl⟩

/-- run the writer alone on a list of clocks (stops where it is when it cannot step) -/
def wsteps (s : QState) : List Clock → QState
  | [] => s
  | c :: cs => match wstep s c with
    | some s' => wsteps s' cs
    | none => s

/-- **Termination.** From any state in which the shutdown flag is set or no handle is left, the
writer thread alone — no producer interferes, time passes (every `park_deadline` returns, every
`next_flush` is reached), arbitrary other clock bits — reaches `exited` within `2·|ring| + 13`
micro-steps: it drains, flushes, closes and exits rather than running forever. -/
theorem c05_terminates (s : QState) (cs : List Clock) (hH : s.shutdown = true ∨ s.handles = 0)
    (hcs : ∀ c ∈ cs, c.passes) (hlen : measure s ≤ cs.length) : (wsteps s cs).wpc = .exited := by
  induction cs generalizing s with
  | nil =>
    simp only [wsteps]
    simp only [List.length_nil, Nat.le_zero] at hlen
    unfold measure rank at hlen
    revert hlen
    cases s.wpc <;> simp
    split <;> omega
  | cons c cs ih =>
    by_cases hex : s.wpc = .exited
    · have : wstep s c = none := by unfold wstep; rw [hex]
      simp only [wsteps, this]; exact hex
    · obtain ⟨hpw, hpf⟩ := hcs c List.mem_cons_self
      obtain ⟨s', hs'⟩ := Option.isSome_iff_exists.mp (wstep_isSome hpw hex)
      obtain ⟨hm, hsd, hh⟩ := (wstep_inv hs').measure_lt hpf hH
      simp only [wsteps, hs']
      apply ih
      · rw [hsd, hh]; exact hH
      · intro c' hc'; exact hcs c' (by simp [hc'])
      · simp only [List.length_cons] at hlen; omega

/-- **The shutdown wake-up is not lost.** If the shutdown flag is set while the writer sits in
`park`, then the Parker token is set or the dropping thread is just about to `unpark`: the writer
wakes up without waiting for the flush interval. -/
theorem c05_shutdown_wakes {s : QState} (hr : Reachable s) (hsd : s.shutdown = true) (hp : s.wpc = .parking) :
    s.token = true ∨ s.join = .stored :=
  (parkInv_reachable hr).shutdown (by rw [hp]; exact Nat.le_refl 3) hsd

def lateC : Clock := ⟨false, true, true, false⟩
def quietC : Clock := ⟨false, false, false, false⟩

/-- join path: two entries queued behind a stalled writer, `drop(join)`, then the writer runs -/
def nvJoin : Option QState :=
  run (init 4 (fun _ => .ok) true)
    ([.push 0, .w quietC, .w quietC, .push 0, .push 0, .dropJoinBegin, .dropJoinUnpark] ++
      (List.replicate 11 (.w quietC)) ++ [.dropJoinEnd])

example : (nvJoin.map fun s => (decide (s.join = .joined), decide (s.wpc = .exited), delivered s.log)) =
    some (true, true, [(0, 0), (0, 1), (0, 2)]) := by decide +kernel
example : (nvJoin.map fun s => (s.shutHit, promised s,
    decide (s.log.drop (s.log.length - 3) = [.flush, .closed, .joinReturned]))) = some (false, 3, true) := by decide +kernel

/-- forget path: forget, push, drop the last handle; the writer times out of `park` and exits -/
def nvForget : Option QState :=
  run (init 4 (fun _ => .ok) true)
    ([.forget, .push 0, .dropHandle] ++ List.replicate 12 (.w lateC))

example : (nvForget.map fun s => (decide (s.join = .forgotten), decide (s.wpc = .exited), s.handles)) =
    some (true, true, 0) := by decide +kernel
example : (nvForget.map fun s => (delivered s.log, s.log.contains .closed)) = some ([(0, 0)], true) := by decide +kernel

end Queue

#print axioms Queue.c05_join_drains
#print axioms Queue.c05_join_returns_after_exit
#print axioms Queue.c05_close_preceded_by_flush
#print axioms Queue.c05_shutdown_step_flushes
#print axioms Queue.c05_final_drain_always_reaches_flush
#print axioms Queue.c05_not_closed_while_running
#print axioms Queue.c05_after_shutdown_discarded
#print axioms Queue.c05_forget_path
#print axioms Queue.c05_terminates
#print axioms Queue.c05_shutdown_wakes
