import Props.KeepAliveStep
import Props.KeepAliveSlots
/-!
Reachability and the inductive invariant of the keep-alive transition system (shared by C06 and C13).
-/
namespace KeepAlive

/-- a slot field as constructed by `Slot::new(init)` / `LazySlot::default()` -/
def fresh (c : Bool × Nat) : Slot := { lazy := c.1, init := c.2 }

/-- states reachable by any schedule from the initial state of an entry whose slot fields are `cfg`
(`(lazy?, initial value)` per field, in declaration order) -/
inductive Reachable (cfg : List (Bool × Nat)) : St → Prop where
  | init : Reachable cfg (init (cfg.map fresh))
  | step {s s' : St} (e : Ev) : Reachable cfg s → step s e = some s' → Reachable cfg s'

theorem reachable_run {cfg : List (Bool × Nat)} {s s' : St} (es : List Ev) (hr : Reachable cfg s)
    (h : run s es = some s') : Reachable cfg s' :=
  run_induction (fun hr h => Reachable.step _ hr h) hr h

/-- references on the value cell held by the `Parent` fields of the dropping thread -/
def pV : PPc → Nat
  | .idle | .decV => 1
  | _ => 0

/-- reference on the guard cell held by `Parent.guard` -/
def pG : PPc → Nat
  | .done => 0
  | _ => 1

def pA : PPc → Nat
  | .app => 1
  | _ => 0

def iA : IPc → Nat
  | .app => 1
  | _ => 0

def lA : LPc → Nat
  | .app => 1
  | _ => 0

/-- the taken closure (holding `guard_value`) is alive inside `DropAll::drop` -/
def lV : LPc → Nat
  | .run => 1
  | _ => 0

def b2n (b : Bool) : Nat := if b then 1 else 0

@[simp] theorem b2n_true : b2n true = 1 := rfl
@[simp] theorem b2n_false : b2n false = 0 := rfl

/-- number of threads inside `Drop for AppendAndCloseOnDropInner` -/
def nApp (s : St) : Nat := pA s.pPc + iA s.iPc + lA s.lPc

def wellSlot (sl : Slot) : Prop :=
  (sl.g = .live → sl.opened = true) ∧ (sl.g = .sent → sl.opened = true)

structure Inv (s : St) : Prop where
  /-- strong count of the value cell = its holders -/
  vcount : s.vS = pV s.pPc + b2n s.closure + lV s.lPc
  /-- strong count of the guard cell = its holders -/
  gcount : s.gS = pG s.pPc + s.fgLive + s.nUp + b2n s.lock + s.nDec
  /-- the entry has been appended, or is being appended by exactly one thread, iff the value count is 0 -/
  apps0 : s.vS = 0 → s.appended.length + nApp s = 1
  apps1 : s.vS > 0 → s.appended.length + nApp s = 0
  lockpc : s.lock = true ↔ s.lPc ≠ .free
  hpc : s.hS > 0 ↔ s.pPc = .idle
  izero : s.iPc ≠ .idle ↔ s.gS = 0
  iclos : s.iPc = .app ∨ s.iPc = .done → s.closure = false
  lclos : s.lPc ≠ .free ∨ s.nDec > 0 → s.closure = false
  /-- the closure disappears only through a force-flush guard or with the last guard-cell reference -/
  forced : s.closure = false → s.dgBegun > 0 ∨ s.gS = 0
  dgdone : s.dgDone > 0 → s.closure = false ∨ s.gS = 0
  /-- only force-flush guards are between `upgrade` and the end of `DropAll::drop` -/
  upbegun : s.nUp > 0 ∨ s.lPc ≠ .free ∨ s.nDec > 0 → s.dgBegun > 0
  heldle : held s.slots ≤ s.fgLive
  atdrop : s.hS = 0 → s.atDrop = some (s.plain, s.hits)
  appval : ∀ a ∈ s.appended, s.atDrop = some (a.plain, a.hits)

theorem sumBy_fresh (f : Slot → Nat) (hf : ∀ c, f (fresh c) = 0) (cfg : List (Bool × Nat)) :
    sumBy f (cfg.map fresh) = 0 := by
  induction cfg with
  | nil => rfl
  | cons c r ih => simp [sumBy, hf, ih]

theorem held_fresh (cfg : List (Bool × Nat)) : held (cfg.map fresh) = 0 :=
  held_eq _ ▸ sumBy_fresh heldBy (fun _ => rfl) cfg

theorem inv_init (cfg : List (Bool × Nat)) : Inv (init (cfg.map fresh)) := by
  constructor <;> simp [init, pV, pG, lV, nApp, pA, iA, lA, held_fresh]

/-- closes `Inv s'` for an explicit successor state from the destructured invariant of `s` -/
macro "inv_close" : tactic =>
  `(tactic| (constructor <;> dsimp only [nApp] at * <;> grind [pV, pG, pA, iA, lA, lV, b2n]))

macro "inv_ev" h:ident : tactic =>
  `(tactic| (simp only [step, relG, dropFG, finishInner, ownerUsable, anyApp, setSlot] at $h:ident <;> (repeat' split at $h:ident) <;> (try cases $h:ident) <;> inv_close))

variable {s s' : St}

theorem heldBy_le_one (sl : Slot) : heldBy sl ≤ 1 := by unfold heldBy; split <;> omega

theorem Inv.iPc_idle (hi : Inv s) (h : s.gS > 0) : s.iPc = .idle :=
  Classical.byContradiction fun hne => Nat.ne_of_gt h (hi.izero.1 hne)

theorem Inv.lPc_free (hi : Inv s) (h : s.lock = false) : s.lPc = .free :=
  Classical.not_not.1 (mt hi.lockpc.2 (by simp [h]))

theorem Inv.fgLive_le_gS (hi : Inv s) : pG s.pPc + s.fgLive ≤ s.gS := by have := hi.gcount; omega

theorem nApp_pos (ha : anyApp s = true) : nApp s > 0 := by
  simp only [anyApp, Bool.or_eq_true, decide_eq_true_eq] at ha
  rcases ha with (h | h) | h <;> simp only [nApp, h, pA, iA, lA] <;> omega

theorem inv_slots (hi : Inv s) {l : List Slot} (b : Option Nat) (hl : held l ≤ s.fgLive) :
    Inv { s with slots := l, borrowed := b } :=
  { hi with heldle := hl }

theorem held_setSlot {i : Nat} {sl : Slot} (f : Slot → Slot) (hsl : s.slots[i]? = some sl) {d : Nat}
    (hf : heldBy (f sl) ≤ heldBy sl + d) : held (setSlot s i f).slots ≤ held s.slots + d := by
  have := held_modify f hsl; dsimp only [setSlot]; omega

theorem inv_setSlot (hi : Inv s) {i : Nat} {sl : Slot} (f : Slot → Slot) (b : Option Nat)
    (hsl : s.slots[i]? = some sl) {d : Nat} (hf : heldBy (f sl) ≤ heldBy sl + d) (hd : held s.slots + d ≤ s.fgLive) :
    Inv { setSlot s i f with borrowed := b } :=
  inv_slots hi b (Nat.le_trans (held_setSlot f hsl hf) hd)

/-- `p`, `f`, `n`: the holders of the guard cell that remain when an actor of kind `k` has dropped its reference -/
theorem inv_relG (hi : Inv s) (k : Kind) {p : PPc} {f n : Nat} {l : List Slot}
    (hc : pG p + f + n + 1 = pG s.pPc + s.fgLive + s.nDec)
    (hp : pV p = pV s.pPc ∧ pA p = pA s.pPc ∧ (p = .idle ↔ s.pPc = .idle))
    (hn : n ≤ s.nDec) (hk : k = .dg → n < s.nDec) (hl : held l ≤ f) :
    Inv (relG k { s with pPc := p, fgLive := f, nDec := n, slots := l }) := by
  obtain ⟨hpV, hpA, hpI⟩ := hp
  have hg := hi.gcount
  have hidle := hi.iPc_idle (by omega)
  rw [relG_eq]
  dsimp only
  split
  · exact { hi with
      vcount := by have := hi.vcount; dsimp only; omega
      gcount := by dsimp only; omega
      apps0 := fun h => by have := hi.apps0 h; simp only [nApp, hidle, iA] at *; omega
      apps1 := fun h => by have := hi.apps1 h; simp only [nApp, hidle, iA] at *; omega
      hpc := by have := hi.hpc; dsimp only; rw [hpI]; exact this
      izero := by simp
      iclos := by simp
      lclos := fun h => hi.lclos (h.imp_right fun h => Nat.lt_of_lt_of_le h hn)
      forced := fun _ => Or.inr rfl
      dgdone := fun _ => Or.inr rfl
      upbegun := fun h => hi.upbegun (h.imp_right (Or.imp_right fun h => Nat.lt_of_lt_of_le h hn))
      heldle := hl }
  · exact { hi with
      vcount := by have := hi.vcount; dsimp only; omega
      gcount := by dsimp only; omega
      apps0 := fun h => by have := hi.apps0 h; simp only [nApp] at *; omega
      apps1 := fun h => by have := hi.apps1 h; simp only [nApp] at *; omega
      hpc := by have := hi.hpc; dsimp only; rw [hpI]; exact this
      izero := by dsimp only; rw [hidle]; simp; omega
      lclos := fun h => hi.lclos (h.imp_right fun h => Nat.lt_of_lt_of_le h hn)
      forced := fun h => by have := hi.forced h; dsimp only at *; omega
      dgdone := fun h => by
        dsimp only at h ⊢
        by_cases hk' : k = .dg
        · exact Or.inl (hi.lclos (Or.inr (by have := hk hk'; omega)))
        · rw [if_neg hk'] at h; exact (hi.dgdone h).imp_right (by omega)
      upbegun := fun h => hi.upbegun (h.imp_right (Or.imp_right fun h => Nat.lt_of_lt_of_le h hn))
      heldle := hl }

theorem inv_dropFG (hi : Inv s) {l : List Slot} (hl : held l < s.fgLive) :
    Inv (dropFG { s with slots := l }) :=
  inv_relG hi .fg (by dsimp only; omega) ⟨rfl, rfl, Iff.rfl⟩ (Nat.le_refl _) nofun (by dsimp only; omega)

theorem pA_eq (p : PPc) : pA p = if p = .app then 1 else 0 := by cases p <;> rfl
theorem iA_eq (p : IPc) : iA p = if p = .app then 1 else 0 := by cases p <;> rfl
theorem lA_eq (p : LPc) : lA p = if p = .app then 1 else 0 := by cases p <;> rfl

theorem one_app (hi : Inv s) (ha : anyApp s = true) : s.vS = 0 ∧ s.appended = [] ∧ nApp s = 1 := by
  have h1 := nApp_pos ha
  have hv : s.vS = 0 := by
    by_cases h : s.vS = 0
    · exact h
    · have := hi.apps1 (by omega); omega
  have := hi.apps0 hv
  exact ⟨hv, List.eq_nil_of_length_eq_zero (by omega), by omega⟩

theorem Inv.appended_le_one (hi : Inv s) : s.appended.length ≤ 1 := by
  by_cases h : s.vS = 0
  · have := hi.apps0 h; omega
  · have := hi.apps1 (Nat.pos_of_ne_zero h); omega

theorem inv_emit (hi : Inv s) (h : Step s .emit s') : Inv s' := by
  cases h with | emit hg =>
  obtain ⟨hv, hnil, h1⟩ := one_app hi hg.1
  have hvc := hi.vcount
  have hat : s.atDrop = some (s.plain, s.hits) := hi.atdrop (by
    have := hi.hpc; cases hp : s.pPc <;> simp_all [pV] <;> omega)
  have hval : ∀ a ∈ s.appended ++ [⟨s.plain, s.hits, closedVals s.slots⟩], s.atDrop = some (a.plain, a.hits) := by
    simp [hnil, hat]
  simp only [nApp, pA_eq, iA_eq, lA_eq] at h1
  -- exactly one of the three program counters is at `app`; that thread leaves the destructor
  by_cases hp : s.pPc = .app <;> by_cases hi' : s.iPc = .app <;> by_cases hl : s.lPc = .app <;>
    simp only [hp, hi', hl, if_true, if_false, true_and, false_and] at h1 ⊢ <;> try omega
  · exact { hi with
      vcount := by simpa only [hp, pV] using hvc
      gcount := by simpa only [hp, pG] using hi.gcount
      apps0 := fun _ => by simp [nApp, hnil, pA, iA_eq, lA_eq, hi', hl]
      apps1 := fun h => absurd hv (Nat.ne_of_gt h)
      hpc := by simpa only [hp, reduceCtorEq] using hi.hpc
      appval := hval }
  · exact { hi with
      apps0 := fun _ => by simp [nApp, hnil, iA, pA_eq, lA_eq, hp, hl]
      apps1 := fun h => absurd hv (Nat.ne_of_gt h)
      izero := by simpa only [hi', ne_eq, reduceCtorEq, not_false_eq_true] using hi.izero
      iclos := fun _ => hi.iclos (Or.inl hi')
      dgdone := fun _ => Or.inr (hi.izero.1 (by simp [hi']))
      appval := hval }
  · exact { hi with
      vcount := by simpa only [hl, lV] using hvc
      apps0 := fun _ => by simp [nApp, hnil, lA, pA_eq, iA_eq, hp, hi']
      apps1 := fun h => absurd hv (Nat.ne_of_gt h)
      lockpc := by simpa only [hl, ne_eq, reduceCtorEq, not_false_eq_true] using hi.lockpc
      lclos := fun _ => hi.lclos (Or.inl (by simp [hl]))
      upbegun := fun _ => hi.upbegun (Or.inr (Or.inl (by simp [hl])))
      appval := hval }

/-- Each event re-establishes only the clauses whose fields it writes (`{ hi with … }` keeps the others). -/
theorem inv_step {e : Ev} (hi : Inv s) (h : step s e = some s') : Inv s' := by
  cases step_cases h with
  | newDG | toHandle | waitCancel | openAgain => exact { hi with }
  | newFG hu =>
    -- the owner is alive, so `Parent.guard` holds a reference on the guard cell
    have hg : s.gS > 0 := by
      have := hi.gcount; have := hi.hpc.1 (ownerUsable_iff.1 hu).1; simp only [this, pG] at *; omega
    exact { hi with
      gcount := by have := hi.gcount; dsimp only at *; omega
      izero := by simp [hi.iPc_idle hg]
      forced := fun h => by have := hi.forced h; dsimp only at *; omega
      dgdone := fun h => (hi.dgdone h).imp_right fun h0 => absurd h0 (Nat.ne_of_gt hg)
      heldle := by have := hi.heldle; dsimp only at *; omega }
  | mutate v hu => exact { hi with atdrop := fun h0 => absurd h0 (Nat.ne_of_gt (ownerUsable_iff.1 hu).1) }
  | hit v hu => exact { hi with atdrop := fun h0 => absurd h0 (Nat.ne_of_gt hu.1) }
  | cloneHandle hu =>
    exact { hi with
      hpc := ⟨fun _ => hi.hpc.1 hu.1, fun _ => Nat.succ_pos _⟩
      atdrop := fun h0 => absurd h0 (Nat.succ_ne_zero _) }
  | refDropLast hu =>
    have hp := hi.hpc.1 hu.1
    have hv : s.vS > 0 := by have := hi.vcount; simp only [hp, pV] at this; omega
    have ha : s.appended = [] := List.eq_nil_of_length_eq_zero (by have := hi.apps1 hv; omega)
    exact { hi with
      vcount := by simpa only [hp, pV] using hi.vcount
      gcount := by simpa only [hp, pG] using hi.gcount
      apps0 := fun h => by simpa only [nApp, hp, pA] using hi.apps0 h
      apps1 := fun h => by simpa only [nApp, hp, pA] using hi.apps1 h
      hpc := by simp
      atdrop := fun _ => rfl
      appval := by simp [ha] }
  | refDrop hu h1 =>
    exact { hi with
      hpc := ⟨fun _ => hi.hpc.1 hu.1, fun _ => by dsimp only; omega⟩
      atdrop := fun h0 => by dsimp only at h0; omega }
  | dgBeginDead _ h0 =>
    exact { hi with
      forced := fun _ => Or.inl (Nat.succ_pos _)
      dgdone := fun _ => Or.inr h0
      upbegun := fun _ => Nat.succ_pos _ }
  | dgBegin _ h0 =>
    exact { hi with
      gcount := by have := hi.gcount; dsimp only at *; omega
      izero := by simp [hi.iPc_idle (Nat.pos_of_ne_zero h0)]
      forced := fun _ => Or.inl (Nat.succ_pos _)
      dgdone := fun h => Or.inl ((hi.dgdone h).resolve_right h0)
      upbegun := fun _ => Nat.succ_pos _ }
  | dgLockTake hn hc =>
    have hf := hi.lPc_free hn.2
    have hb := hi.upbegun (Or.inl hn.1)
    exact { hi with
      vcount := by simpa only [hf, hc, lV, b2n_true, b2n_false] using hi.vcount
      gcount := by have := hi.gcount; simp only [hn.2, b2n_true, b2n_false] at *; omega
      apps0 := fun h => by simpa only [nApp, hf, lA] using hi.apps0 h
      apps1 := fun h => by simpa only [nApp, hf, lA] using hi.apps1 h
      lockpc := by simp
      iclos := fun _ => rfl
      lclos := fun _ => rfl
      forced := fun _ => Or.inl hb
      dgdone := fun _ => Or.inl rfl
      upbegun := fun _ => hb }
  | dgLock hn hc =>
    have hf := hi.lPc_free hn.2
    exact { hi with
      vcount := by simpa only [hf, lV] using hi.vcount
      gcount := by have := hi.gcount; simp only [hn.2, b2n_true, b2n_false] at *; omega
      apps0 := fun h => by simpa only [nApp, hf, lA] using hi.apps0 h
      apps1 := fun h => by simpa only [nApp, hf, lA] using hi.apps1 h
      lockpc := by simp
      lclos := fun _ => Bool.eq_false_iff.2 hc
      upbegun := fun _ => hi.upbegun (Or.inl hn.1) }
  | lRun hl =>
    -- the closure was taken before it is run: its reference on the value is the one released here
    have hc := hi.lclos (Or.inl (by simp [hl]))
    have hv := hi.vcount
    simp only [hl, hc, lV, b2n_false] at hv
    have ha := hi.apps1 (by omega)
    simp only [nApp, hl, lA] at ha
    exact { hi with
      vcount := by dsimp only; split <;> simp only [hc, lV, b2n_false] <;> omega
      apps0 := fun h => by dsimp only at h ⊢; simp only [nApp, if_pos h, lA]; omega
      apps1 := fun h => by dsimp only at h ⊢; simp only [nApp, if_neg (Nat.ne_of_gt h), lA]; omega
      lockpc := ⟨fun _ => by dsimp only; split <;> simp, fun _ => hi.lockpc.2 (by simp [hl])⟩
      lclos := fun _ => hc
      upbegun := fun _ => hi.upbegun (Or.inr (Or.inl (by simp [hl]))) }
  | lUnlock hl =>
    have hne : s.lPc ≠ .free := by simp [hl]
    have hk := hi.lockpc.2 hne
    exact { hi with
      vcount := by simpa only [hl, lV] using hi.vcount
      gcount := by have := hi.gcount; simp only [hk, b2n_true, b2n_false] at *; omega
      apps0 := fun h => by simpa only [nApp, hl, lA] using hi.apps0 h
      apps1 := fun h => by simpa only [nApp, hl, lA] using hi.apps1 h
      lockpc := by simp
      lclos := fun _ => hi.lclos (Or.inl hne)
      upbegun := fun _ => hi.upbegun (Or.inr (Or.inl hne)) }
  | pDecV hp =>
    have hv := hi.vcount
    simp only [hp, pV] at hv
    have ha := hi.apps1 (by omega)
    simp only [nApp, hp, pA] at ha
    exact { hi with
      vcount := by dsimp only; split <;> simp only [pV] <;> omega
      gcount := by have := hi.gcount; dsimp only; split <;> simpa only [hp, pG] using this
      apps0 := fun h => by dsimp only at h ⊢; simp only [nApp, if_pos h, pA]; omega
      apps1 := fun h => by dsimp only at h ⊢; simp only [nApp, if_neg (Nat.ne_of_gt h), pA]; omega
      hpc := ⟨fun h => by simp [hi.hpc.1 h] at hp, fun h => by dsimp only at h; split at h <;> cases h⟩ }
  | innerDropLast hp hc h0 =>
    have hg : s.gS = 0 := hi.izero.1 (by simp [hp])
    have hv := hi.vcount
    simp only [hc, b2n_true] at hv
    have ha := hi.apps1 (by omega)
    simp only [nApp, hp, iA] at ha
    exact { hi with
      vcount := by dsimp only; simp only [b2n_false]; omega
      apps0 := fun _ => by dsimp only; simp only [nApp, iA]; omega
      apps1 := fun h => absurd h (Nat.lt_irrefl _)
      izero := by simp [hg]
      iclos := fun _ => rfl
      lclos := fun _ => rfl
      forced := fun _ => Or.inr hg
      dgdone := fun _ => Or.inr hg }
  | innerDropMore hp hc h0 =>
    have hg : s.gS = 0 := hi.izero.1 (by simp [hp])
    have hv := hi.vcount
    simp only [hc, b2n_true] at hv
    have ha := hi.apps1 (by omega)
    simp only [nApp, hp, iA] at ha
    exact { hi with
      vcount := by dsimp only [finishInner]; simp only [b2n_false]; omega
      apps0 := fun h => by dsimp only [finishInner] at h; omega
      apps1 := fun _ => by dsimp only [finishInner]; simp only [nApp, iA]; omega
      izero := by simp [finishInner, hg]
      iclos := fun _ => rfl
      lclos := fun _ => rfl
      forced := fun _ => Or.inr hg
      dgdone := fun _ => Or.inr hg }
  | innerDrop hp hc =>
    have hg : s.gS = 0 := hi.izero.1 (by simp [hp])
    exact { hi with
      apps0 := fun h => by simpa only [nApp, finishInner, hp, iA] using hi.apps0 h
      apps1 := fun h => by simpa only [nApp, finishInner, hp, iA] using hi.apps1 h
      izero := by simp [finishInner, hg]
      iclos := fun _ => Bool.eq_false_iff.2 hc
      dgdone := fun _ => Or.inr hg }
  | dgDec hn =>
    exact inv_relG hi .dg (by omega) ⟨rfl, rfl, Iff.rfl⟩ (Nat.sub_le _ _) (fun _ => by omega) hi.heldle
  | pDecG hp =>
    exact inv_relG hi .parent (by simp only [hp, pG]; omega) (by simp [hp, pV, pA]) (Nat.le_refl _) nofun hi.heldle
  | fgDrop hf => exact inv_dropFG hi hf
  | openAgainWait i m v0 sl _ hu _ hm => exact inv_dropFG hi (hu.2 hm)
  | delayAgain i sl _ hg => exact inv_dropFG hi hg.2
  | gReleaseWait i sl hsl hg hw =>
    have := held_modify (fun sl => { sl with g := .none }) hsl
    have : heldBy sl = 1 := by simp [heldBy, hg, hw]
    have : heldBy { sl with g := .none } = 0 := by simp [heldBy]
    have := hi.heldle
    exact inv_dropFG hi (by omega)
  | gRelease i sl hsl => exact inv_setSlot hi _ _ hsl (d := 0) (by simp [heldBy]) hi.heldle
  | «open» i m v0 sl hsl hu =>
    cases m with
    | discard => exact inv_setSlot hi _ _ hsl (d := 0) (by simp [heldBy]) hi.heldle
    | wait => exact inv_setSlot hi _ _ hsl (d := 1) (by simp [heldBy]) (hu.2 rfl)
  | waitBegin i sl hsl | waitPoll i sl _ hsl =>
    exact inv_setSlot hi _ _ hsl (d := 0) (Nat.le_of_eq (heldBy_poll sl)) hi.heldle
  | delay i sl hsl hg =>
    exact inv_setSlot hi _ _ hsl (d := 1) (Nat.le_trans (heldBy_le_one _) (Nat.le_add_left _ _)) hg.2
  | gmut i v sl hsl => exact inv_setSlot hi _ _ hsl (d := 0) (Nat.le_refl _) hi.heldle
  | gSend i sl hsl hg => exact inv_setSlot hi _ _ hsl (d := 0) (by simp [heldBy, hg]) hi.heldle
  | closeSlot l _ hl => exact inv_slots hi _ (held_closeFirst hl ▸ hi.heldle)
  | emit hg => exact inv_emit hi (.emit hg)

theorem inv_reachable {cfg : List (Bool × Nat)} (hr : Reachable cfg s) : Inv s := by
  induction hr with
  | init => exact inv_init cfg
  | step e _ h ih => exact inv_step ih h

end KeepAlive
