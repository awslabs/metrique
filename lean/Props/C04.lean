import Props.C05
/-!
# C04 — a completed flush means everything appended before it is written and flushed

Theorems about `Queue.step` / `Queue.hww` for all interleavings of pushes, flush requests (any
number, from any thread), writer micro-steps and overflow events, for every capacity `> 0`.

Flush request `i` is identified by the order of its `send`; the ghost `marks[i]` records how many
pushes had been linearised before that `send`, so "the entries appended before request `i`" are
`pushOrder.take marks[i]`.
-/
namespace Queue

def markOf (s : QState) (i : Nat) : Nat := s.marks.getD i 0

/-- entries the writer has not yet handed to the stream: the one it holds, then the ring -/
def inflight (s : QState) : List Ent := holding s.wpc ++ s.ring

/-- the in-flight entries pushed before mark `m` -/
def pend (l : List Ent) (m : Nat) : List Ent := l.filter fun e => decide (e.2 < m)

/-- the `count` the current drain loop has accumulated -/
def cnt : WPc → Nat
  | .drain n => n
  | .holding _ n => n
  | .afterDrain _ n => n
  | _ => 0

structure FlushInv (s : QState) : Prop where
  marksLe : ∀ m ∈ s.marks, m ≤ s.pushOrder.length
  ids : ∀ i, i ∈ s.waiting ∨ i ∈ s.sigs → i < s.marks.length
  /-- the counter protocol: as long as an entry pushed before request `i` is still in flight, the
  remaining budget `ebw` covers all of them plus what the current drain has already counted -/
  budget : shutPhase s.wpc = false → ∀ i ∈ s.waiting, pend (inflight s) (markOf s i) ≠ [] →
    (pend (inflight s) (markOf s i)).length + cnt s.wpc ≤ s.ebw
  /-- after a drain that ended on an empty ring nothing pushed before a waiting request is in flight -/
  drainedZero : ∀ n, s.wpc = .afterDrain .drained n → ∀ i ∈ s.waiting, pend (inflight s) (markOf s i) = []

theorem getD_append_left {α : Type} (l l' : List α) {i : Nat} {d : α} (h : i < l.length) : (l ++ l').getD i d = l.getD i d := by
  simp [List.getD_eq_getElem?_getD, List.getElem?_append_left h]

theorem markOf_le {s : QState} (h : ∀ m ∈ s.marks, m ≤ s.pushOrder.length) (i : Nat) :
    markOf s i ≤ s.pushOrder.length := by
  rw [markOf, List.getD_eq_getElem?_getD]
  cases hm : s.marks[i]? with
  | none => exact Nat.zero_le _
  | some m => exact h m (List.mem_of_getElem? hm)

theorem inflight_sorted {s : QState} (hc : Conserve s) : (inflight s).Pairwise (fun a b => a.2 < b.2) := by
  have hpo : s.pushOrder.Pairwise (fun a b => a.2 < b.2) :=
    List.pairwise_map.mp (hc.idx ▸ List.pairwise_lt_range)
  have hsub : (delivered s.log ++ holding s.wpc ++ s.ring).Sublist s.pushOrder := hc.cons ▸ List.filter_sublist
  have h2 := hpo.sublist hsub
  rw [List.append_assoc] at h2
  exact (List.pairwise_append.mp h2).2.1

theorem pend_snoc_unmarked (l : List Ent) (e : Ent) (m : Nat) (h : m ≤ e.2) : pend (l ++ [e]) m = pend l m := by
  simp [pend, List.filter_append, Nat.not_lt.mpr h]

theorem pend_cons_of_sorted {e : Ent} {l : List Ent} {m : Nat} (hs : (e :: l).Pairwise (fun a b => a.2 < b.2))
    (hne : pend l m ≠ []) : pend (e :: l) m = e :: pend l m := by
  obtain ⟨x, hx⟩ := List.exists_mem_of_ne_nil _ hne
  have hx' := List.mem_filter.mp hx
  have hlt : e.2 < x.2 := (List.pairwise_cons.mp hs).1 x hx'.1
  have : e.2 < m := by have := of_decide_eq_true hx'.2; omega
  simp [pend, this]

theorem FlushInv.mono {s s' : QState} (hi : FlushInv s)
    (hmle : ∀ m ∈ s'.marks, m ≤ s'.pushOrder.length)
    (hids : ∀ i, i ∈ s'.waiting ∨ i ∈ s'.sigs → i < s'.marks.length)
    (hmk : ∀ i ∈ s.waiting, markOf s' i = markOf s i) (hw : s'.waiting = s.waiting)
    (he : s'.ebw = s.ebw) (hpc : s'.wpc = s.wpc)
    (hle : ∀ i, (pend (inflight s') (markOf s i)).length ≤ (pend (inflight s) (markOf s i)).length) :
    FlushInv s' := by
  refine ⟨hmle, hids, fun h1 i hiw hne => ?_, fun n h1 i hiw => ?_⟩ <;> rw [hw] at hiw <;>
    rw [hmk i hiw] at * <;> have hle := hle i
  · rw [hpc, he]
    refine Nat.le_trans (Nat.add_le_add_right hle _) (hi.budget (hpc ▸ h1) i hiw fun h0 => hne ?_)
    rw [h0] at hle; exact List.eq_nil_of_length_eq_zero (Nat.le_zero.mp hle)
  · rw [hi.drainedZero n (hpc ▸ h1) i hiw] at hle
    exact List.eq_nil_of_length_eq_zero (Nat.le_zero.mp hle)

/-- a push: the in-flight list loses at most its displaced member and gains an unmarked entry -/
theorem flushInv_push {s : QState} (hi : FlushInv s) (p : Nat) {ring : List Ent} {log : List Obs} {overflow : Nat}
    (hsub : (holding s.wpc ++ ring).Sublist (inflight s)) :
    FlushInv { s with
      ring := ring ++ [(p, s.pushOrder.length)], pushOrder := s.pushOrder ++ [(p, s.pushOrder.length)],
      pushed := p :: s.pushed, log := log, overflow := overflow } := by
  refine hi.mono (fun m hm => ?_) hi.ids (fun _ _ => rfl) rfl rfl rfl fun i => ?_
  · rw [List.length_append]; exact Nat.le_add_right_of_le (hi.marksLe m hm)
  · simp only [inflight]
    rw [← List.append_assoc, pend_snoc_unmarked _ _ _ (markOf_le hi.marksLe i)]
    exact (hsub.filter _).length_le

/-- a flush request: known requests keep their marks, the new one is marked with the present length -/
theorem flushInv_send {s : QState} (hi : FlushInv s) {sigs sent : List Nat} {log : List Obs}
    (hs : ∀ i ∈ sigs, i ∈ s.sigs ∨ i = s.marks.length) :
    FlushInv { s with marks := s.marks ++ [s.pushOrder.length], sent := sent, sigs := sigs, log := log } := by
  refine hi.mono (fun m hm => ?_) (fun i hi' => ?_) (fun i hiw => getD_append_left _ _ (hi.ids i (.inl hiw)))
    rfl rfl rfl fun _ => Nat.le_refl _
  · exact (List.mem_append.mp hm).elim (hi.marksLe m) fun h1 => Nat.le_of_eq (List.mem_singleton.mp h1)
  · rw [List.length_append]
    rcases hi' with h1 | h1
    · exact Nat.lt_succ_of_lt (hi.ids i (.inl h1))
    · exact (hs i h1).elim (fun h => Nat.lt_succ_of_lt (hi.ids i (.inr h))) fun h => h ▸ Nat.lt_succ_self _

theorem flushInv_step {s s' : QState} {ev : Ev} (hc : Conserve s) (hcap : 0 < s.cap) (hi : FlushInv s)
    (h : Step s ev s') : FlushInv s' := by
  cases h
  case flushDead => exact flushInv_send hi fun _ h => .inl h
  case flushSend => exact flushInv_send hi fun _ h => (List.mem_append.mp h).imp_right List.mem_singleton.mp
  case push p _ _ => exact flushInv_push hi p (.refl _)
  case pushFull p d t _ hr _ =>
    exact flushInv_push hi p (by rw [inflight, hr]; exact (List.sublist_cons_self d t).append_left _)
  case w c hw =>
    have hb := hi.budget
    simp only [inflight] at hb
    have hpl : ∀ m, (pend s.ring m).length ≤ s.cap :=
      fun m => Nat.le_trans (List.length_filter_le _ _) (by have := hc.bound; omega)
    cases hw
    case drained n hpc hr =>
      rw [hpc] at hb
      exact ⟨hi.marksLe, hi.ids, hb, fun _ _ i _ => by simp [inflight, holding, hr, pend]⟩
    case pop n e t hpc hr | shutPop n e t hpc hr =>
      rw [hpc, hr] at hb
      exact ⟨hi.marksLe, hi.ids, hb, nofun⟩
    case consume e n hpc _ | consumeHit e n hpc _ =>
      -- the held entry goes to the stream and is counted
      have hsrt := inflight_sorted hc
      rw [inflight, hpc] at hsrt
      refine ⟨hi.marksLe, hi.ids, fun _ i hiw hne => ?_, nofun⟩
      have hne : pend s.ring (markOf s i) ≠ [] := hne
      have hcons : pend (holding (.holding e n) ++ s.ring) (markOf s i) = e :: pend s.ring (markOf s i) :=
        pend_cons_of_sorted hsrt hne
      rw [hpc] at hb
      have := hb rfl i hiw (hcons ▸ List.cons_ne_nil _ _)
      rw [hcons] at this
      exact (Nat.add_right_comm _ 1 n ▸ this : _)
    case countDown st n hpc _ _ =>
      rw [hpc] at hb
      exact ⟨hi.marksLe, hi.ids, fun _ i hiw hne => Nat.le_sub_of_add_le (hb rfl i hiw hne), nofun⟩
    case collect st n hpc _ | wake st n hpc _ _ =>
      refine ⟨hi.marksLe, fun i hi' => hi.ids i (.inr (hi'.resolve_right List.not_mem_nil)),
        fun _ i (hiw : i ∈ s.sigs) _ => ?_, nofun⟩
      simp only [if_neg (List.ne_nil_of_mem hiw)]
      exact hpl _
    case shutFlush => exact ⟨hi.marksLe, fun i hi' => by simp at hi', nofun, nofun⟩
    case sawShutdown | noHandles | shutDrained | shutConsume | shutConsumeHit =>
      exact ⟨hi.marksLe, hi.ids, fun h => Bool.noConfusion h, fun _ h => WPc.noConfusion h⟩
    -- the other branches move the writer between states that hold no entry and count nothing
    all_goals
      rw [‹s.wpc = _›] at hb
      exact ⟨hi.marksLe, hi.ids, hb, fun _ h => WPc.noConfusion h⟩
  all_goals exact { hi with }

theorem mem_take_index {po : List Ent} (hidx : po.map Prod.snd = List.range po.length) {m : Nat} {e : Ent}
    (he : e ∈ po.take m) : e.2 < m := by
  have : e.2 ∈ (po.take m).map Prod.snd := List.mem_map_of_mem he
  rw [List.map_take, hidx, List.take_range] at this
  have := List.mem_range.mp this
  omega

/-- When `handle_waiting_wakers` wakes a waiting request — the budget is used up, or the drain ended on
an empty ring — nothing pushed before that request is still in flight. -/
theorem FlushInv.barrier {s : QState} (hi : FlushInv s) (hc : Conserve s) {st : Status} {n i : Nat}
    (hpc : s.wpc = .afterDrain st n) (hcomp : s.ebw - n = 0 ∨ st = .drained) (hiw : i ∈ s.waiting) :
    ∀ e ∈ s.pushOrder.take (markOf s i), e ∈ delivered s.log ∨ e ∈ displaced s.log := by
  have hzero : pend (inflight s) (markOf s i) = [] := by
    rcases hcomp with h0 | rfl
    · cases hp : pend (inflight s) (markOf s i) with
      | nil => rfl
      | cons x xs =>
        have := hi.budget (by rw [hpc]; rfl) i hiw (by rw [hp]; exact List.cons_ne_nil _ _)
        rw [hp, hpc] at this
        simp only [List.length_cons, cnt] at this
        omega
    · exact hi.drainedZero n hpc i hiw
  intro e he
  rcases hc.accounted (List.mem_of_mem_take he) with h | h | h
  · exact .inl h
  · exact .inr h
  · have : e ∈ pend (inflight s) (markOf s i) :=
      List.mem_filter.mpr ⟨h, decide_eq_true (mem_take_index hc.idx he)⟩
    rw [hzero] at this; cases this

theorem Emits.live {s : QState} {ev : Ev} {added : List Obs} {i : Nat} (he : Emits s ev added)
    (hnew : Obs.completed i true ∈ added) :
    ∃ c st n, ev = .w c ∧ s.wpc = .afterDrain st n ∧ (s.ebw - n = 0 ∨ st = .drained) ∧ i ∈ s.waiting ∧
      added = Obs.flush :: s.waiting.map (Obs.completed · true) := by
  cases he
  case wake c st n hpc _ hc => exact ⟨c, st, n, rfl, hpc, hc, by simpa using hnew, rfl⟩
  case consume => exact (mem_consumeObs hnew).elim nofun nofun
  all_goals simp at hnew

/-- the barrier at one position of the history: the completion of `i` is preceded by a flush, with
only other completions in between, and before that flush every entry pushed before request `i` was
handed to the stream or displaced -/
def BarrierAt (s : QState) (pre : List Obs) (i : Nat) : Prop :=
  i < s.marks.length ∧ ∃ p1 p2, pre = p1 ++ Obs.flush :: p2 ∧ (∀ o ∈ p2, ∃ j, o = Obs.completed j true) ∧
    ∀ e ∈ s.pushOrder.take (markOf s i), e ∈ delivered p1 ∨ e ∈ displaced p1

def BarrierLog (s : QState) : Prop :=
  ∀ pre post i, s.log = pre ++ Obs.completed i true :: post → BarrierAt s pre i

theorem barrierAt_mono {s s' : QState} {ev : Ev} (h : Step s ev s') (hmle : ∀ m ∈ s.marks, m ≤ s.pushOrder.length)
    {pre : List Obs} {i : Nat} (hb : BarrierAt s pre i) : BarrierAt s' pre i := by
  obtain ⟨-, -, ⟨lp, hp⟩, ⟨lm, hm⟩⟩ := h.frame
  obtain ⟨hlt, p1, p2, hpre, hp2, hall⟩ := hb
  refine ⟨by rw [← hm, List.length_append]; exact Nat.lt_add_right _ hlt, p1, p2, hpre, hp2, ?_⟩
  have hmk : markOf s' i = markOf s i := by rw [markOf, ← hm]; exact getD_append_left _ _ hlt
  rw [hmk, ← hp, List.take_append_of_le_length (markOf_le hmle i)]
  exact hall

theorem barrierLog_step {s s' : QState} {ev : Ev} (hc : Conserve s) (hi : FlushInv s) (hb : BarrierLog s)
    (h : Step s ev s') : BarrierLog s' := by
  obtain ⟨added, hl, he⟩ := h.emits
  intro pre post i hsplit
  rw [hl] at hsplit
  rcases append_eq_append_cons hsplit with ⟨post', hlog⟩ | ⟨a', rfl, hadd⟩
  · exact barrierAt_mono h hi.marksLe (hb pre post' i hlog)
  · obtain ⟨c, st, n, -, hpc, hcomp, hiw, rfl⟩ := he.live (hadd ▸ List.mem_append_right _ List.mem_cons_self)
    -- `a'` is the flush followed by some of the completions
    cases a' with
    | nil => cases hadd
    | cons x a'' =>
      obtain ⟨rfl, hrest⟩ := List.cons.inj hadd
      refine barrierAt_mono h hi.marksLe
        ⟨hi.ids i (.inl hiw), s.log, a'', rfl, fun o ho => ?_, hi.barrier hc hpc hcomp hiw⟩
      have hm : o ∈ s.waiting.map (Obs.completed · true) := by rw [hrest]; exact List.mem_append_left _ ho
      obtain ⟨j, -, rfl⟩ := List.mem_map.mp hm
      exact ⟨j, rfl⟩

theorem flush_reachable {s : QState} (hr : Reachable s) : 0 < s.cap → FlushInv s ∧ BarrierLog s :=
  hr.inv (P := fun s => 0 < s.cap → FlushInv s ∧ BarrierLog s)
    (fun _ _ _ _ => ⟨⟨nofun, fun _ h => by simp [init] at h, nofun, nofun⟩, fun pre _ _ h => by simp [init] at h⟩)
    fun a _ _ hr' ih h hcap =>
      have hcap' : 0 < a.cap := h.frame.1 ▸ hcap
      have hc := conserve_reachable hr'
      ⟨flushInv_step hc hcap' (ih hcap').1 h, barrierLog_step hc (ih hcap').1 (ih hcap').2 h⟩

/-- **The flush barrier (S1).** Whenever a step completes flush future `i` while the queue is
live, every entry pushed before request `i` was sent has *already* been handed to the stream or was
displaced by overflow — in the history before this step — and this very step first flushes the
stream and only then completes the future (together with the other waiting ones). -/
theorem c04_barrier {s s' : QState} {ev : Ev} {i : Nat} (hr : Reachable s) (hcap : 0 < s.cap)
    (h : step s ev = some s') (hnew : Obs.completed i true ∈ s'.log.drop s.log.length) :
    (∀ e ∈ s.pushOrder.take (markOf s i), e ∈ delivered s.log ∨ e ∈ displaced s.log) ∧
    ∃ woken : List Nat, i ∈ woken ∧ s'.log = s.log ++ Obs.flush :: woken.map (Obs.completed · true) := by
  obtain ⟨added, hl, he⟩ := (step_inv h).emits
  rw [hl, List.drop_left] at hnew
  obtain ⟨c, st, n, -, hpc, hcomp, hiw, rfl⟩ := he.live hnew
  exact ⟨(flush_reachable hr hcap).1.barrier (conserve_reachable hr) hpc hcomp hiw, s.waiting, hiw, hl⟩

/-- **The flush barrier over the whole history.** In every reachable state (capacity > 0), for every
position of the history at which flush future `i` completed on a live queue: the history before it
ends with a `flush` followed only by other completions, and before that `flush` every entry pushed
before request `i` was sent had been handed to the stream or displaced by overflow. -/
theorem c04_barrier_log {s : QState} (hr : Reachable s) (hcap : 0 < s.cap) {pre post : List Obs} {i : Nat}
    (hsplit : s.log = pre ++ Obs.completed i true :: post) :
    ∃ p1 p2, pre = p1 ++ Obs.flush :: p2 ∧ (∀ o ∈ p2, ∃ j, o = Obs.completed j true) ∧
      ∀ e ∈ s.pushOrder.take (markOf s i), e ∈ delivered p1 ∨ e ∈ displaced p1 :=
  ((flush_reachable hr hcap).2 pre post i hsplit).2

/-- **Trace specification (T-trace).** The executable barrier predicate the driver evaluates at every
completion observed in a real multi-threaded run holds in the model at every live completion: with
`before` = the entries pushed before the request, `lost` = the displaced entries, and `calls` = the
history up to and including the flush of the completing step. -/
theorem c04_spec_accepts {s s' : QState} {ev : Ev} {i : Nat} (hr : Reachable s) (hcap : 0 < s.cap)
    (h : step s ev = some s') (hnew : Obs.completed i true ∈ s'.log.drop s.log.length) :
    Spec.barrierAt (s.pushOrder.take (markOf s i)) (displaced s.log) (s.log ++ [Obs.flush]) = true := by
  obtain ⟨hb, _⟩ := c04_barrier hr hcap h hnew
  simp only [Spec.barrierAt, Bool.and_eq_true, List.all_eq_true, List.reverse_append, List.reverse_cons,
    List.reverse_nil, List.nil_append, List.singleton_append, Spec.flushedAfter, and_true]
  intro e he
  have hd : delivered (s.log ++ [Obs.flush]) = delivered s.log := by simp [delivered]
  rw [hd]
  rcases hb e he with h1 | h1 <;> simp [h1]

def completedCount (log : List Obs) : Nat := (log.filter fun | .completed _ _ => true | _ => false).length

/-- a variant of `step` in which the flush-request channel holds at most `k` requests and a request that
does not fit is dropped — which drops its oneshot sender, i.e. completes its future (the seeded change
`sync_channel(1024)` + `try_send(..).ok()`) -/
def stepBounded (k : Nat) (s : QState) : Ev → Option QState
  | .flushSend =>
    if s.wpc ≠ .exited ∧ k ≤ s.sigs.length then
      some { s with marks := s.marks ++ [s.pushOrder.length], sent := s.marks.length :: s.sent,
                    log := s.log ++ [.completed s.marks.length true] }
    else step s .flushSend
  | ev => step s ev

def runBounded (k : Nat) (s : QState) : List Ev → Option QState
  | [] => some s
  | ev :: evs => match stepBounded k s ev with
    | none => none
    | some s' => runBounded k s' evs

/-- **The barrier does not depend on how many flush requests are outstanding** — `c04_barrier` /
`c04_barrier_log` quantify over all event sequences, so over any number of `flushSend`s while the writer is
stalled. A bounded channel that drops the requests it cannot hold is *not* a refinement: with room for one
request, one entry pushed and the writer not moving at all, the second request completes at once although
the entry pushed before it has not been handed to the stream (decided witness). -/
theorem c04_bounded_channel_violates :
    (runBounded 1 (init 4 (fun _ => .ok) true) [.push 0, .flushSend, .flushSend]).map
      (fun s => (s.log.contains (.completed 1 true), delivered s.log, s.pushOrder.take (markOf s 1))) =
      some (true, [], [(0, 0)]) ∧
    -- the unbounded channel of the model: nothing completes
    (run (init 4 (fun _ => .ok) true) [.push 0, .flushSend, .flushSend]).map
      (fun s => (completedCount s.log, s.sigs)) = some (0, [0, 1]) := by decide +kernel

/-- potential of request `i`: an upper bound on the number of progressing `handle_waiting_wakers`
calls before it is woken -/
def phi (cap i : Nat) (waiting : List Nat) (ebw : Nat) (sigs : List Nat) : Nat :=
  if i ∈ waiting then ebw
  else if i ∈ sigs then (if waiting = [] then 0 else ebw) + 1 + cap
  else 0

theorem phi_counting {cap i : Nat} {waiting sigs : List Nat} (hw : waiting ≠ []) (hi : i ∈ waiting ∨ i ∈ sigs)
    (ebw : Nat) : phi cap i waiting ebw sigs = ebw + if i ∈ waiting then 0 else 1 + cap := by
  unfold phi
  by_cases hiw : i ∈ waiting
  · rw [if_pos hiw, if_pos hiw]; rfl
  · rw [if_neg hiw, if_neg hiw, if_pos (hi.resolve_left hiw), if_neg hw]; exact Nat.add_assoc _ _ _

/-- **Boundedness, the counter protocol (L1 / S2).** For every call of `handle_waiting_wakers` and every
request `i` that is waiting or still in the channel: either the call wakes `i`, or `i` is still
known and its potential has not increased; if the call makes progress (`count > 0` or `Drained`) the
potential strictly decreases. This is the step of the argument that `i` is woken after at most
`phi ≤ 2·cap + 1` progressing calls, whatever the producers do — the queue never needs to be empty; the bound
over a run is not stated as a theorem. -/
theorem c04_bounded (cap : Nat) (st : Status) (count : Nat) (waiting : List Nat) (ebw : Nat) (sigs : List Nat)
    (i : Nat) (hi : i ∈ waiting ∨ i ∈ sigs) :
    let o := hww cap st count waiting ebw sigs
    i ∈ o.completed ∨
      ((i ∈ o.waiting ∨ i ∈ o.sigs) ∧ phi cap i o.waiting o.ebw o.sigs ≤ phi cap i waiting ebw sigs ∧
        ((0 < count ∨ st = .drained) → phi cap i o.waiting o.ebw o.sigs < phi cap i waiting ebw sigs)) := by
  intro o
  have ho : o = _ := hww_eq cap st count waiting ebw sigs
  by_cases hcount : waiting ≠ [] ∧ ¬(ebw - count = 0 ∨ st = .drained)
  · -- still counting down: nothing changes but the budget
    rw [ho, if_pos hcount]
    dsimp only
    rw [phi_counting hcount.1 hi, phi_counting hcount.1 hi]
    refine .inr ⟨hi, Nat.add_le_add_right (Nat.sub_le _ _) _, fun hp => Nat.add_lt_add_right ?_ _⟩
    have h0 : ¬ebw - count = 0 := fun h => hcount.2 (.inl h)
    have hc : 0 < count := hp.resolve_right fun h => hcount.2 (.inr h)
    omega
  · rw [ho, if_neg hcount]
    by_cases hiw : i ∈ waiting
    · exact .inl hiw
    · -- collected from the channel with a fresh budget `cap`
      have his := hi.resolve_left hiw
      refine .inr ⟨.inl his, ?_, fun _ => ?_⟩ <;>
        simp only [phi, his, hiw, List.ne_nil_of_mem his, if_true, if_false] <;> omega

/-- facts about the writer loop that make `c04_bounded` bite -/
structure WakerInv (s : QState) : Prop where
  ebwLe : s.ebw ≤ s.cap
  /-- `handle_waiting_wakers` is never called with `HitDeadline` and `count = 0` -/
  progress : ∀ n, s.wpc = .afterDrain .hitDeadline n → 0 < n
  /-- the writer never parks while wakers wait -/
  noParkWaiting : s.wpc = .parking → s.waiting = []
  /-- a flush signal in the channel is not forgotten: if the writer has passed its last look at the
  channel and is heading into `park`, the token is set or the requester is about to `unpark` -/
  signalSeen : (s.wpc = .postHww .drained ∨ s.wpc = .parking) → ∀ i ∈ s.sigs, s.token = true ∨ i ∈ s.sent
  /-- after the thread exited no future is left pending -/
  exitedClean : s.wpc = .exited → s.waiting = [] ∧ s.sigs = []

/-- the writer states at which `WakerInv` says more than `ebw ≤ cap` -/
def wakerPc : WPc → Bool
  | .afterDrain .hitDeadline _ => true
  | .postHww .drained => true
  | .parking => true
  | .exited => true
  | _ => false

theorem WakerInv.of_quiet {s : QState} (hle : s.ebw ≤ s.cap) (hq : wakerPc s.wpc = false) : WakerInv s := by
  refine ⟨hle, fun _ h => ?_, fun h => ?_, fun h => ?_, fun h => ?_⟩
  case refine_3 => rcases h with h | h <;> rw [h] at hq <;> cases hq
  all_goals rw [h] at hq; cases hq

theorem ParkInv.signalSeen {s : QState} (hp : ParkInv s) (h : s.wpc = .postHww .drained ∨ s.wpc = .parking) :
    ∀ i ∈ s.sigs, s.token = true ∨ i ∈ s.sent :=
  hp.sigs (by rcases h with h | h <;> rw [h] <;> decide)

theorem wakerInv_step {s s' : QState} {ev : Ev} (hi : WakerInv s) (h : Step s ev s') (hp : ParkInv s') :
    WakerInv s' := by
  cases h
  case flushSend hex =>
    exact { hi with signalSeen := hp.signalSeen, exitedClean := fun h' => absurd h' hex }
  case w c hw =>
    cases hw
    case consumeHit => exact ⟨hi.ebwLe, fun m h => by cases h; exact Nat.succ_pos _, nofun, nofun, nofun⟩
    case countDown => exact ⟨Nat.le_trans (Nat.sub_le _ _) hi.ebwLe, nofun, nofun, hp.signalSeen, nofun⟩
    case collect =>
      exact ⟨(by dsimp only; split; exact hi.ebwLe; exact Nat.le_refl _), nofun, nofun, hp.signalSeen, nofun⟩
    case wake =>
      exact ⟨(by dsimp only; split; exact Nat.zero_le _; exact Nat.le_refl _), nofun, nofun, hp.signalSeen, nofun⟩
    case postPark _ _ hwp =>
      exact ⟨hi.ebwLe, nofun, fun _ => by simpa [willProgress] using hwp, hp.signalSeen, nofun⟩
    case shutFlush => exact ⟨hi.ebwLe, nofun, nofun, nofun, fun _ => ⟨rfl, rfl⟩⟩
    all_goals exact .of_quiet hi.ebwLe rfl
  all_goals exact { hi with signalSeen := hp.signalSeen }

theorem wakerInv_reachable {s : QState} (hr : Reachable s) : WakerInv s :=
  hr.inv (fun _ _ _ => ⟨Nat.zero_le _, nofun, nofun, nofun, nofun⟩)
    fun _ _ _ hr' hi h => wakerInv_step hi h ((parkInv_reachable hr').step h)

/-- **Boundedness, the writer loop.** In every reachable state the potential of a pending request is
at most `2·cap + 1`; `handle_waiting_wakers` is only ever called with progress (`Drained`, or
`HitDeadline` with `count > 0`), so by `c04_bounded` every call decreases it; the writer never parks
while wakers wait; and a request still in the channel when the writer heads into `park` comes with a
token or a pending `unpark`. (The conclusion these facts are for — the future completes after a bounded
number of `handle_waiting_wakers` calls although the ring may never be empty — is not stated as a theorem.) -/
theorem c04_bounded_loop {s : QState} (hr : Reachable s) (i : Nat) :
    phi s.cap i s.waiting s.ebw s.sigs ≤ 2 * s.cap + 1 ∧
    (∀ st n, s.wpc = .afterDrain st n → 0 < n ∨ st = .drained) ∧
    (s.wpc = .parking → s.waiting = []) ∧
    ((s.wpc = .postHww .drained ∨ s.wpc = .parking) → i ∈ s.sigs → s.token = true ∨ i ∈ s.sent) := by
  have hi := wakerInv_reachable hr
  refine ⟨?_, ?_, hi.noParkWaiting, fun hw his => hi.signalSeen hw i his⟩
  · have := hi.ebwLe
    unfold phi
    split
    · omega
    · split
      · split <;> omega
      · omega
  · intro st n hpc
    cases st with
    | drained => exact .inr rfl
    | hitDeadline => exact .inl (hi.progress n hpc)

/-- **After shutdown a flush completes immediately**: once the thread has exited, a flush request
completes in the very step that sends it, and the exit itself completed every request that was
waiting or queued (none is left pending). -/
theorem c04_after_exit_immediate {s : QState} (hr : Reachable s) (hex : s.wpc = .exited) :
    (∃ s', step s .flushSend = some s' ∧ s'.log = s.log ++ [Obs.completed s.marks.length false]) ∧
    s.waiting = [] ∧ s.sigs = [] := by
  exact ⟨⟨_, by simp only [step, hex, ↓reduceIte]; rfl, rfl⟩, (wakerInv_reachable hr).exitedClean hex⟩

/-- the exit step wakes everybody -/
theorem c04_exit_completes_all {s : QState} (c : Clock) (hpc : s.wpc = .shutFlush) :
    ∃ s', wstep s c = some s' ∧ s'.wpc = .exited ∧
      s'.log = s.log ++ [.flush, .closed] ++ (s.waiting ++ s.sigs).map (Obs.completed · false) :=
  c05_shutdown_step_flushes c hpc

/-- **Completions at exit come after the final drain and flush.** The wakers that are still pending
when the writer shuts down (waiting, counting down, or still in the channel) are released only by
the very last step of `run`: that step first flushes the stream and drops it, then completes them —
and if the shutdown timeout did not fire, every entry pushed before the shutdown began (before the
flag was stored; every entry, on the no-appenders path) had already been handed to the stream or
displaced before that flush. In particular, unless that timeout fired, a flush requested on a live queue is not
completed by the exit while entries appended before it (and before the shutdown) are still unwritten. -/
theorem c04_exit_barrier {s s' : QState} {c : Clock} (hr : Reachable s) (hpc : s.wpc = .shutFlush)
    (h : wstep s c = some s') :
    s'.log = s.log ++ [.flush, .closed] ++ (s.waiting ++ s.sigs).map (Obs.completed · false) ∧
    s'.waiting = [] ∧ s'.sigs = [] ∧
    (s.shutHit = false → ∀ e ∈ s.pushOrder.take (promised s), e ∈ delivered s.log ∨ e ∈ displaced s.log) := by
  have hi := shutInv_reachable hr
  unfold wstep at h
  rw [hpc] at h
  simp only [Option.some.injEq] at h
  subst h
  exact ⟨rfl, rfl, rfl, hi.drained (by rw [hpc]; rfl)⟩

/-- Before that last step nothing completes a flush future "dead": a `completed _ false` observation
is produced only by the exit step or by a `flushSend` after the exit. -/
theorem c04_dead_completion_origin {s s' : QState} {ev : Ev} {i : Nat} (h : step s ev = some s')
    (hnew : Obs.completed i false ∈ s'.log.drop s.log.length) :
    (∃ c, ev = .w c ∧ s.wpc = .shutFlush) ∨ (ev = .flushSend ∧ s.wpc = .exited) := by
  obtain ⟨added, hl, he⟩ := (step_inv h).emits
  rw [hl, List.drop_left] at hnew
  cases he
  case dead hex => exact .inr ⟨rfl, hex⟩
  case exit c hpc => exact .inl ⟨c, rfl, hpc⟩
  case consume => exact (mem_consumeObs hnew).elim nofun nofun
  all_goals simp at hnew

def nvC : Clock := ⟨true, false, false, false⟩

/-- pop, write, and a producer pushes a new entry at once -/
def refill : List Ev := [.w nvC, .w nvC, .push 1]

/-- two entries queued, a flush requested; the writer pops and writes 32 entries (the ring is
refilled after every pop), hits its deadline, collects the request (`ebw = 2`), goes round the outer
loop, writes 32 more entries, hits the deadline again — and wakes the future although the ring has
never been empty -/
def nvNeverEmpty : List Ev :=
  [.push 0, .push 0, .flushSend, .flushUnpark 0] ++ (List.replicate 32 refill).flatten ++
  [.w nvC, .w nvC, .w nvC, .w nvC, .w nvC] ++ (List.replicate 32 refill).flatten ++ [.w nvC]

/-- minimum over the run of (ring + entry being written) -/
def minInflight (s : QState) : List Ev → Nat → Option Nat
  | [], m => some m
  | ev :: evs, m => match step s ev with
    | none => none
    | some s' => minInflight s' evs (min m (s'.ring.length + (holding s'.wpc).length))

example : ((run (init 2 (fun _ => .ok) true) nvNeverEmpty).map fun s =>
    (s.ring.length, s.log.contains (.completed 0 true), (delivered s.log).length)) = some (2, true, 64) := by
  decide +kernel

example : minInflight (init 2 (fun _ => .ok) true) nvNeverEmpty 99 = some 1 := by decide +kernel

end Queue

#print axioms Queue.c04_barrier
#print axioms Queue.c04_spec_accepts
#print axioms Queue.c04_barrier_log
#print axioms Queue.c04_bounded_channel_violates
#print axioms Queue.c04_bounded
#print axioms Queue.c04_bounded_loop
#print axioms Queue.c04_after_exit_immediate
#print axioms Queue.c04_exit_completes_all
#print axioms Queue.c04_exit_barrier
#print axioms Queue.c04_dead_completion_origin
