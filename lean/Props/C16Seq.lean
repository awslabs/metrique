import Props.C16
/-!
C16 at entry and stream level: an entry is several lines, each one `write_all_vectored`; a stream is
several entries over one writer whose behaviour (script) is arbitrary.
-/
namespace Vectored

theorem loop_calls (script : List Resp) (sl : List Bytes) (acc : Bytes) (c : Nat) (off : List (List Bytes)) :
    (loop script sl acc c off).calls ≤ c + script.length ∧
    (loop script sl acc c off).offered.length + c = off.length + (loop script sl acc c off).calls := by
  fun_induction loop script sl acc c off with
  | case5 _ _ _ _ _ _ _ _ _ ih | case6 _ _ _ _ _ _ ih =>
    simp only [List.length_append, List.length_cons, List.length_nil] at ih ⊢
    omega
  | _ => simp <;> omega

/-- responses after the ones consumed are never looked at: unless the script ran out, appending
anything to it changes nothing -/
theorem loop_append (script extra : List Resp) (sl : List Bytes) (acc : Bytes) (c : Nat) (off : List (List Bytes))
    (h : (loop script sl acc c off).outcome ≠ .exhausted) :
    loop (script ++ extra) sl acc c off = loop script sl acc c off := by
  fun_induction loop script sl acc c off with
  | case2 => simp at h
  | case5 _ _ _ _ _ _ _ _ hsome ih => simpa [loop, hsome] using ih h
  | case6 _ _ _ _ _ _ ih => simpa [loop] using ih h
  | _ => simp [loop, *]

theorem writeAllVectored_calls (bufs : List Bytes) (script : List Resp) :
    (writeAllVectored bufs script).calls ≤ script.length ∧
    (writeAllVectored bufs script).offered.length = (writeAllVectored bufs script).calls := by
  obtain ⟨sl, -, -, h⟩ := writeAllVectored_eq bufs
  rw [h]
  have := loop_calls script sl [] 0 []
  simp only [List.length_nil] at this
  omega

theorem writeLines_prefix (e : Entry) (script : List Resp) :
    PrefixOf e.bytes (writeLines e script).accepted (writeLines e script).outcome := by
  induction e generalizing script with
  | nil => exact .all [] (.inl rfl)
  | cons l ls ih =>
    show PrefixOf (l.flatten ++ Entry.bytes ls) _ _
    simp only [writeLines]
    split
    · rw [c16_ok_all l script ‹_›]
      exact (ih _).append_left _
    · exact (writeAllVectored_prefix l script).append_right _ (by simpa using ‹_›)

/-- **C16 (entry level).** Whatever the writer does, the bytes it accepted for one entry are a
prefix of the entry's lines in emission order (whole lines, then part of one line: nothing torn out
of the middle, duplicated or reordered); `Ok` means every byte of every line; an error (the outcome
`panic` apart, as in `c16_prefix`) means strictly less — a failed entry is never completely on the
wire. In the model no line after the failing one is attempted (`writeLines`; `calls`/`linesDone`
say where it stopped). -/
theorem c16_entry_prefix (e : Entry) (script : List Resp) :
    ∃ k, k ≤ e.bytes.length ∧
      (writeLines e script).accepted = e.bytes.take k ∧
      ((writeLines e script).outcome = .ok → k = e.bytes.length) ∧
      ((writeLines e script).outcome ≠ .ok → (writeLines e script).outcome ≠ .panic → k < e.bytes.length) :=
  (writeLines_prefix e script).take

theorem c16_entry_ok_all (e : Entry) (script : List Resp) (h : (writeLines e script).outcome = .ok) :
    (writeLines e script).accepted = e.bytes :=
  (h ▸ writeLines_prefix e script).eq_of_ok

theorem writeLines_calls (e : Entry) (script : List Resp) :
    (writeLines e script).calls ≤ script.length ∧
    (writeLines e script).offered.length = (writeLines e script).calls := by
  induction e generalizing script with
  | nil => simp [writeLines]
  | cons l ls ih =>
    have h1 := writeAllVectored_calls l script
    simp only [writeLines]
    split
    · have h2 := ih (script.drop (writeAllVectored l script).calls)
      simp only [List.length_drop, List.length_append] at h2 ⊢
      omega
    · exact h1

/-- **C16 (entry level): no zero-length offers**, on any line of the entry. -/
theorem c16_entry_never_offers_empty (e : Entry) (script : List Resp) :
    ∀ o ∈ (writeLines e script).offered, o ≠ [] ∧ HeadNonempty o := by
  induction e generalizing script with
  | nil => simp [writeLines]
  | cons l ls ih =>
    simp only [writeLines]
    split
    · exact List.forall_mem_append.mpr ⟨c16_never_offers_empty l script, ih _⟩
    · exact c16_never_offers_empty l script

/-- the conclusion of `c16_entry_prefix` as a predicate on an entry and a result -/
def EntryOk (e : Entry) (r : EntryResult) : Prop :=
  ∃ k, k ≤ e.bytes.length ∧ r.accepted = e.bytes.take k ∧
    (r.outcome = .ok → k = e.bytes.length) ∧
    (r.outcome ≠ .ok → r.outcome ≠ .panic → k < e.bytes.length)

/-- **C16 (stream level), full strength.** For every list of entries and every writer behaviour:
every entry is attempted (one result per entry, in order — an error never stops the stream), and
each result satisfies the entry-level statement with respect to *its own* entry: the bytes on the
wire are `e₁`'s prefix, then `e₂`'s prefix, … — a failed entry leaves a proper prefix of itself and
the next entry starts with its own first byte (no resend of the failed tail, no skipped head). -/
theorem c16_stream (es : List Entry) (script : List Resp) :
    (writeEntries es script).length = es.length ∧
    ∀ i (h : i < es.length) (h' : i < (writeEntries es script).length),
      EntryOk es[i] (writeEntries es script)[i] := by
  induction es generalizing script with
  | nil => simp [writeEntries]
  | cons e es ih =>
    obtain ⟨hl, hi⟩ := ih (script.drop (writeLines e script).calls)
    refine ⟨by simp [writeEntries, hl], ?_⟩
    intro i h h'
    cases i with
    | zero => exact c16_entry_prefix e script
    | succ i => exact hi i (Nat.lt_of_succ_lt_succ h) (Nat.lt_of_succ_lt_succ h')

/-- the wire content of a stream whose entries all succeeded is exactly the entries' bytes -/
theorem c16_stream_all_ok (es : List Entry) (script : List Resp)
    (h : ∀ r ∈ writeEntries es script, r.outcome = .ok) :
    streamBytes (writeEntries es script) = (es.map Entry.bytes).flatten := by
  induction es generalizing script with
  | nil => simp [writeEntries, streamBytes]
  | cons e es ih =>
    have h0 := h (writeLines e script) (by simp [writeEntries])
    have := ih (script.drop (writeLines e script).calls) (fun r hr => h r (by simp [writeEntries, hr]))
    simp only [streamBytes, writeEntries, List.map_cons, List.flatten_cons] at this ⊢
    rw [this, c16_entry_ok_all e script h0]

/-- **Errors are local.** The entries after a position see the writer exactly as the calls so far
left it: replacing the earlier entries by any others that consume the same number of responses
(succeeding or failing) gives the later entries the same results. -/
theorem c16_stream_suffix (es1 es2 : List Entry) (script : List Resp) :
    writeEntries (es1 ++ es2) script =
      writeEntries es1 script ++
        writeEntries es2 (script.drop ((writeEntries es1 script).map (·.calls)).sum) := by
  induction es1 generalizing script with
  | nil => simp [writeEntries]
  | cons e es ih =>
    simp only [List.cons_append, writeEntries, List.map_cons, List.sum_cons]
    rw [ih, List.drop_drop]

/-- Non-vacuity: three entries (2 lines, 1 line, 1 line) over a writer that tears the first line,
fails hard inside the second line of entry 1, and then works: entry 1 leaves 7 of its 9 bytes and an
I/O error, entries 2 and 3 are complete. -/
example :
    let es : List Entry := [[[[0, 1], [2, 3, 4]], [[5, 6, 7, 8]]], [[[10, 11, 12]]], [[[20], [21]]]]
    let rs := writeEntries es [.ok 3, .interrupted, .ok 2, .ok 2, .err, .ok 3, .ok 1, .ok 1]
    rs.map (·.outcome) = [.ioErr, .ok, .ok] ∧
    streamBytes rs = [0, 1, 2, 3, 4, 5, 6] ++ [10, 11, 12] ++ [20, 21] ∧
    rs.map (·.linesDone) = [1, 1, 1] := by
  decide

end Vectored

#print axioms Vectored.c16_entry_prefix
#print axioms Vectored.c16_entry_ok_all
#print axioms Vectored.c16_entry_never_offers_empty
#print axioms Vectored.c16_stream
#print axioms Vectored.c16_stream_all_ok
#print axioms Vectored.c16_stream_suffix
#print axioms Vectored.loop_append
