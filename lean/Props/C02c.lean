import Props.C02a
/-!
Lemmas for C02: encoded dimension arrays, `extend_with_strings` and dimension-set entries; the
invariant of the per-call writer, preserved by every writer call.
-/
namespace Emf
open Json

/-- a JSON array with its framing visible: `[` items `]` -/
def IsArrLit (d : Bytes) : Prop := ∃ items, d = 91 :: (items ++ [93]) ∧ IsItems items

theorem IsArrLit.isVal {d : Bytes} (h : IsArrLit d) : IsVal d := by
  obtain ⟨items, rfl, hi⟩ := h; exact IsVal.arr hi

theorem IsArrLit.jarrStrings (xs : List Bytes) : IsArrLit (jarrStrings xs) :=
  ⟨_, rfl, IsItems.sepBy_map xs fun s _ => IsVal.jstr s⟩

theorem extendLoop_spec (names : List Bytes) (items : Bytes) (first : Bool) (hi : IsItems items)
    (hf : first = true ↔ items = []) :
    ∃ items', extendLoop (91 :: items) first names = 91 :: items' ∧ IsItems items' := by
  induction names generalizing items first with
  | nil => exact ⟨items, rfl, hi⟩
  | cons n rest ih =>
    unfold extendLoop
    cases first with
    | true =>
      have : items = [] := hf.mp rfl
      subst this
      simp only [↓reduceIte, List.cons_append, List.nil_append]
      exact ih (jstr n) false (IsItems.one (IsVal.jstr n)) (by simp [(IsVal.jstr n).ne_nil])
    | false =>
      have hne : items ≠ [] := fun h => by simpa using hf.mpr h
      simp only [Bool.false_eq_true, ↓reduceIte, List.cons_append, List.append_assoc]
      exact ih (items ++ 44 :: jstr n) false (hi.push hne (IsVal.jstr n)) (by simp)

theorem IsArrLit.extendWithStrings {d : Bytes} (h : IsArrLit d) (names : List Bytes) :
    IsArrLit (extendWithStrings d names) := by
  obtain ⟨items, rfl, hi⟩ := h
  unfold Emf.extendWithStrings
  have hlen : (91 :: (items ++ [93])).length - 1 = (91 :: items).length := by simp
  have htake : (91 :: (items ++ [93])).take ((91 :: (items ++ [93])).length - 1) = 91 :: items := by
    rw [hlen]
    have : 91 :: (items ++ [93]) = (91 :: items) ++ [93] := by simp
    rw [this, List.take_left]
  simp only [htake]
  obtain ⟨items', e, hi'⟩ := extendLoop_spec names items ((91 :: (items ++ [93])).length == 2) hi (by
    simp only [List.length_cons, List.length_append, List.length_nil, beq_iff_eq]
    constructor
    · intro h; exact List.length_eq_zero_iff.mp (by omega)
    · intro h; subst h; rfl)
  rw [e]
  exact ⟨items', by simp, hi'⟩

theorem IsMembers.dimPairs (key : DimKey) :
    IsMembers (key.map fun kv => 44 :: (jstr kv.1 ++ 58 :: jstr kv.2)).flatten := by
  induction key with
  | nil => exact IsMembers.nil
  | cons kv rest ih =>
    simp only [List.map_cons, List.flatten_cons]
    exact (IsMembers.one (IsKey.jstr _) (IsVal.jstr _)).append ih

/-- the head of every record: `{"_aws":{"CloudWatchMetrics":[{"Namespace":"ns0","Dimensions":[` -/
def recHead (cfg : Config) : Bytes := awsOpen ++ jstr cfg.ns0 ++ dimensionsAfterNs

def DimInv (cfg : Config) (e : DimEntry) : Prop :=
  ∃ P F D M, e.fieldsBuf = ⟨(125 :: P).length, 125 :: P ++ F⟩ ∧ IsMembers P ∧ IsMembers F ∧
    e.metricsBuf = ⟨(recHead cfg ++ D ++ metricsPrefix).length, recHead cfg ++ D ++ metricsPrefix ++ M⟩ ∧
    IsItems D ∧ IsItems M ∧ e.afterNsIndex = (awsOpen ++ jstr cfg.ns0).length

theorem DimInv.new (cfg : Config) (eachDims : List Bytes) (he : ∀ d ∈ eachDims, IsArrLit d) (key : DimKey)
    (index : Nat) : DimInv cfg (DimEntry.new (jstr cfg.ns0) eachDims key index) := by
  refine ⟨_, [], sepBy [44] (eachDims.map fun d => extendWithStrings d (key.map (·.1))), [], ?_, IsMembers.dimPairs key,
    IsMembers.nil, ?_, ?_, IsItems.nil, rfl⟩
  · rw [List.append_nil]; rfl
  · rw [List.append_nil]; rfl
  · exact IsItems.sepBy_map _ fun d hd => ((he d hd).extendWithStrings _).isVal

theorem dimFind?_mem {m : List DimEntry} {key : DimKey} {e : DimEntry} (h : dimFind? m key = some e) : e ∈ m := by
  induction m with
  | nil => simp [dimFind?] at h
  | cons e' rest ih =>
    unfold dimFind? at h
    split at h
    · cases h; simp
    · simp [ih h]

theorem dimSet_forall {P : DimEntry → Prop} {m : List DimEntry} {e : DimEntry} (hm : ∀ x ∈ m, P x) (he : P e) :
    ∀ x ∈ dimSet m e, P x := by
  induction m with
  | nil => simpa [dimSet] using he
  | cons e' rest ih =>
    unfold dimSet
    split
    · intro x hx
      rcases List.mem_cons.mp hx with rfl | h
      · exact he
      · exact hm x (by simp [h])
    · intro x hx
      rcases List.mem_cons.mp hx with rfl | h
      · exact hm x (by simp)
      · exact ih (fun y hy => hm y (by simp [hy])) x h

structure WInv (cfg : Config) (w : Writer) : Prop where
  sf : ∃ S, w.st.stringFieldsBuf = ⟨0, S⟩ ∧ IsMembers S
  f : ∃ F, w.st.fieldsBuf = ⟨1, 125 :: F⟩ ∧ IsMembers F
  m : ∃ M, w.st.metricsBuf = ⟨metricsPrefix.length, metricsPrefix ++ M⟩ ∧ IsItems M
  counts : w.st.countsBuf = PBuf.new countsPrefix
  decl : w.st.declBuf = PBuf.new (extraDirectivesStr cfg.extraDirectives)
  dbuf : w.st.dimensionsBuf.WF (dimensionsPrefix cfg)
  ed : ∀ ds, w.entryDims = some ds → ∀ d ∈ ds, IsArrLit d
  dm : ∀ e ∈ w.st.dimMap, DimInv cfg e

theorem eachDims_arr (cfg : Config) : ∀ d ∈ (Consts.ofConfig cfg).eachDims, IsArrLit d := by
  intro d hd
  obtain ⟨x, _, rfl⟩ := List.mem_map.mp hd
  exact IsArrLit.jarrStrings x

theorem WInv.start (cfg : Config) : WInv cfg (Writer.start (Consts.ofConfig cfg) (State.fresh cfg)) := by
  refine ⟨⟨[], rfl, IsMembers.nil⟩, ⟨[], rfl, IsMembers.nil⟩, ⟨[], rfl, IsItems.nil⟩, rfl, ?_, PBuf.WF.new _, ?_, ?_⟩
  · exact (PBuf.WF.new _).clear_eq
  · intro ds h; cases h
  · intro e he; cases he

theorem WInv.of_st_eq {cfg : Config} {w w' : Writer} (h : WInv cfg w) (hs : w'.st = w.st)
    (he : w'.entryDims = w.entryDims) : WInv cfg w' :=
  ⟨hs ▸ h.sf, hs ▸ h.f, hs ▸ h.m, hs ▸ h.counts, hs ▸ h.decl, hs ▸ h.dbuf, he ▸ h.ed, hs ▸ h.dm⟩

theorem metricGlobalWrite_inv {cfg : Config} (mult : Option Nat) {w : Writer} (h : WInv cfg w)
    (name : Bytes) (obs : List Obs) (hok : ∀ o ∈ obs, o.fmtOk = true) (unit : Option Bytes) (flags : Flags) :
    WInv cfg (metricGlobalWrite mult w name obs unit flags) := by
  obtain ⟨F, hF, hFm⟩ := h.f
  obtain ⟨M, hM, hMi⟩ := h.m
  unfold metricGlobalWrite
  rw [hF, hM, h.counts]
  obtain ⟨⟨x, e1, hx⟩, ⟨M', e2, hM'⟩, e3⟩ := writeMetric_spec name ⟨1, 125 :: F⟩ metricsPrefix M hMi obs hok unit flags mult
  exact ⟨h.sf, ⟨F ++ x, by simp only [e1]; simp, hFm.append hx⟩, ⟨M', by simp only [e2], hM'⟩, by simp only [e3],
    h.decl, h.dbuf, h.ed, h.dm⟩

theorem metricSplitWrite_inv {cfg : Config} (mult : Option Nat) {w : Writer} (h : WInv cfg w)
    (entry : DimEntry) (he : DimInv cfg entry)
    (name : Bytes) (obs : List Obs) (hok : ∀ o ∈ obs, o.fmtOk = true) (unit : Option Bytes) (flags : Flags) :
    WInv cfg (metricSplitWrite mult w entry name obs unit flags) := by
  obtain ⟨P, F, D, M, hF, hP, hFm, hM, hD, hMi, ha⟩ := he
  unfold metricSplitWrite
  rw [hF, hM, h.counts]
  obtain ⟨⟨x, e1, hx⟩, ⟨M', e2, hM'⟩, e3⟩ := writeMetric_spec name ⟨(125 :: P).length, 125 :: P ++ F⟩
    (recHead cfg ++ D ++ metricsPrefix) M hMi obs hok unit flags mult
  refine ⟨h.sf, h.f, h.m, by simp only [e3], h.decl, h.dbuf, h.ed, ?_⟩
  simp only
  apply dimSet_forall h.dm
  exact ⟨P, F ++ x, D, M', by simp only [e1]; simp, hP, hFm.append hx, by simp only [e2], hD, hM', ha⟩

theorem dimEntryFor_inv {cfg : Config} {w : Writer} (h : WInv cfg w) (key : DimKey) :
    DimInv cfg (dimEntryFor (Consts.ofConfig cfg) w key) := by
  unfold dimEntryFor
  cases hf : dimFind? w.st.dimMap key with
  | some e => exact h.dm e (dimFind?_mem hf)
  | none =>
    simp only
    apply DimInv.new
    cases hd : w.entryDims with
    | none => exact eachDims_arr cfg
    | some ds => exact h.ed ds hd

theorem configEntryDims_entryDims (c : Consts) (w : Writer) (sets : List (List Bytes)) :
    (configEntryDims c w sets).entryDims = w.entryDims ∨
    (configEntryDims c w sets).entryDims =
      some (c.eachDims.flatMap fun d => sets.map fun e => extendWithStrings d e) := by
  unfold configEntryDims
  cases (!w.st.dimMap.isEmpty) with
  | true => exact Or.inl rfl
  | false =>
    cases w.entryDims.isSome with
    | true => exact Or.inl rfl
    | false =>
      cases sets.isEmpty with
      | true => exact Or.inl rfl
      | false => exact Or.inr rfl

theorem WriterCall.inv {cfg : Config} {mult : Option Nat} {f : Writer → Writer}
    (h : WriterCall (Consts.ofConfig cfg) mult (fun obs => ∀ o ∈ obs, o.fmtOk = true) f) {w : Writer}
    (hw : WInv cfg w) : WInv cfg (f w) := by
  cases h with
  | frame hf => exact hw.of_st_eq (hf.st w) (hf.entryDims w)
  | timestamp t => dsimp only; rw [applyItem_timestamp]; exact hw.of_st_eq rfl rfl
  | entryDims sets =>
    have hst := configEntryDims_st (Consts.ofConfig cfg) w sets
    refine ⟨hst ▸ hw.sf, hst ▸ hw.f, hst ▸ hw.m, hst ▸ hw.counts, hst ▸ hw.decl, hst ▸ hw.dbuf, ?_, hst ▸ hw.dm⟩
    intro ds hds d hd
    rcases configEntryDims_entryDims (Consts.ofConfig cfg) w sets with e | e <;> rw [e] at hds
    · exact hw.ed ds hds d hd
    · cases hds
      obtain ⟨d0, hd0, hd'⟩ := List.mem_flatMap.mp hd
      obtain ⟨e, _, rfl⟩ := List.mem_map.mp hd'
      exact (eachDims_arr cfg d0 hd0).extendWithStrings e
  | str name s hg =>
    obtain ⟨S, hS, hSm⟩ := hw.sf
    have hp : WInv cfg (pushStringField w name s) := by
      refine ⟨⟨S ++ 44 :: (jstr name ++ 58 :: jstr s), ?_,
        hSm.append (IsMembers.one (IsKey.jstr name) (IsVal.jstr s))⟩, hw.f, hw.m, hw.counts, hw.decl, hw.dbuf, hw.ed, hw.dm⟩
      simp [pushStringField, hS, PBuf.push, PBuf.jsonString, PBuf.pushRaw]
    exact hp.of_st_eq (hg.st _) (hg.entryDims _)
  | global name obs unit flags hg hq =>
    exact metricGlobalWrite_inv mult (hw.of_st_eq (hg.st w) (hg.entryDims w)) name obs hq unit flags
  | split name obs unit key flags hg hq =>
    have h2 := hw.of_st_eq (hg.st w) (hg.entryDims w)
    exact metricSplitWrite_inv mult
      (h2.of_st_eq ((Frame.metricCheck _ name _).st _) ((Frame.metricCheck _ name _).entryDims _))
      _ (dimEntryFor_inv h2 _) name obs hq unit flags

theorem applyItem_inv {cfg : Config} (mult : Option Nat) {w : Writer} (h : WInv cfg w) (it : Item)
    (hok : it.fmtOk = true) : WInv cfg (applyItem (Consts.ofConfig cfg) mult w it) :=
  (applyItem_call (Consts.ofConfig cfg) mult it fun _ _ _ _ _ e => by
    subst e; simpa [Item.fmtOk, Val.fmtOk, List.all_eq_true] using hok).inv h

theorem foldl_applyItem_inv {cfg : Config} (mult : Option Nat) (items : List Item)
    (hok : ∀ it ∈ items, it.fmtOk = true) {w : Writer} (h : WInv cfg w) :
    WInv cfg (items.foldl (applyItem (Consts.ofConfig cfg) mult) w) := by
  induction items generalizing w with
  | nil => exact h
  | cons it rest ih =>
    exact ih (fun x hx => hok x (by simp [hx])) (applyItem_inv mult h it (hok it (by simp)))
end Emf
