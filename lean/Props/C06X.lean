import Props.C06
/-!
# C06 over the extended model (`Model/KeepAliveX.lean`)

Histories that additionally contain a slot guard whose drop panics in `close()` (`gSendFail`) and slot fields replaced
while their guard is alive (`slotReplace`, orphan guards with `oDelay` / `oGmut` / `oSend` / `oSendFail` / `oRelease`).
For the reference-count protocol these add nothing new — a panicking guard drop is a guard drop, an orphan guard that was
handed a flush guard by `delay_flush` is a holder of a flush guard — so the invariant `Inv` of the base component is
preserved, together with "flush guards held by slot guards and by orphans ≤ `fgLive`".  The C06 theorems follow for every
schedule of the extended model (`ReachableX`).
-/
namespace KeepAlive

variable {cfg : List (Bool × Nat)} {x x' : StX}

inductive ReachableX (cfg : List (Bool × Nat)) : StX → Prop where
  | init : ReachableX cfg (initX (cfg.map fresh))
  | step {x x' : StX} (e : EvX) : ReachableX cfg x → stepX x e = some x' → ReachableX cfg x'

theorem reachableX_run {x x' : StX} (es : List EvX) (hr : ReachableX cfg x) (h : runX x es = some x') :
    ReachableX cfg x' := by
  induction es generalizing x with
  | nil => simp [runX] at h; exact h ▸ hr
  | cons e es ih =>
    simp only [runX] at h
    split at h
    · cases h
    · rename_i x1 hs; exact ih (ReachableX.step e hr hs) h

structure InvX (x : StX) : Prop where
  inv : Inv x.b
  /-- flush guards inside slot guards and inside orphan guards are distinct live flush guards -/
  heldx : held x.b.slots + heldO x.orph ≤ x.b.fgLive

theorem heldByO_le_one (o : OGuard) : heldByO o ≤ 1 := by unfold heldByO; split <;> omega

theorem heldO_append (a b : List OGuard) : heldO (a ++ b) = heldO a + heldO b := by
  induction a with
  | nil => simp [heldO]
  | cons o r ih => simp [heldO, ih]; omega

theorem heldO_modify {l : List OGuard} {j : Nat} {o : OGuard} (f : OGuard → OGuard) (h : l[j]? = some o) :
    heldO (modifyAt f l j) + heldByO o = heldO l + heldByO (f o) := by
  induction l generalizing j with
  | nil => simp at h
  | cons a r ih =>
    cases j with
    | zero => simp at h; subst h; simp [modifyAt, heldO]; omega
    | succ j => simp at h; have := ih h; simp [modifyAt, heldO]; omega

theorem heldO_erase {l : List OGuard} {j : Nat} {o : OGuard} (h : l[j]? = some o) :
    heldO (l.eraseIdx j) + heldByO o = heldO l := by
  induction l generalizing j with
  | nil => simp at h
  | cons a r ih =>
    cases j with
    | zero => simp at h; subst h; simp [heldO]; omega
    | succ j => simp at h; have := ih h; simp [heldO]; omega

/-- the number of free flush guards (`fgLive − held`) goes down by at most one, and only with an event that takes one -/
theorem step_free {s s' : St} {e : Ev} (hle : held s.slots ≤ s.fgLive) (h : step s e = some s') :
    held s'.slots + s.fgLive ≤ held s.slots + s'.fgLive + (if needsFree e then 1 else 0) := by
  cases step_cases h with
  | «open» i m v0 sl hsl =>
    cases m with
    | discard => exact Nat.add_le_add_right (held_setSlot _ hsl (d := 0) (by simp [heldBy])) _
    | wait =>
      refine Nat.le_trans (Nat.add_le_add_right (held_setSlot _ hsl (d := 1) ?_) _) ?_
      · simp [heldBy]
      · simp [needsFree, setSlot]; omega
  | waitBegin i sl hsl | waitPoll i sl _ hsl =>
    exact Nat.add_le_add_right (held_setSlot _ hsl (d := 0) (Nat.le_of_eq (heldBy_poll sl))) _
  | delay i sl hsl =>
    refine Nat.le_trans (Nat.add_le_add_right (held_setSlot _ hsl (d := 1) ?_) _) ?_
    · exact Nat.le_trans (heldBy_le_one _) (Nat.le_add_left _ _)
    · simp [needsFree, setSlot]; omega
  | gmut i v sl hsl => exact Nat.add_le_add_right (held_setSlot _ hsl (d := 0) (Nat.le_refl _)) _
  | gSend i sl hsl hg => exact Nat.add_le_add_right (held_setSlot _ hsl (d := 0) (by simp [heldBy, hg])) _
  | gRelease i sl hsl => exact Nat.add_le_add_right (held_setSlot _ hsl (d := 0) (by simp [heldBy])) _
  | gReleaseWait i sl hsl hg hw =>
    have := held_modify (fun sl => { sl with g := .none }) hsl
    have : heldBy sl = 1 := by simp [heldBy, hg, hw]
    have : heldBy { sl with g := .none } = 0 := by simp [heldBy]
    simp only [dropFG_fields, setSlot] at *; omega
  | closeSlot l _ hl => simp [held_closeFirst hl]
  | openAgainWait _ _ _ _ _ hu _ hm => subst hm; have := hu.2 rfl; simp [needsFree]; omega
  | fgDrop | delayAgain => simp [needsFree]; omega
  | newFG | dgDec | pDecG => simp [needsFree]
  | _ => exact Nat.le_add_right _ _

theorem invX_step {e : EvX} (hx : InvX x) (h : stepX x e = some x') : InvX x' := by
  obtain ⟨hi, hh⟩ := hx
  cases stepX_cases h with
  | base e b' hn hs =>
    refine ⟨inv_step hi hs, ?_⟩
    have hf := step_free hi.heldle hs
    have : needsFree e = true → held x.b.slots + heldO x.orph < x.b.fgLive := by simpa [freeFG] using hn
    dsimp only
    by_cases hne : needsFree e = true
    · have := this hne; rw [if_pos hne] at hf; omega
    · rw [if_neg hne] at hf; omega
  | gSendFail i sl hsl hg =>
    have := held_setSlot (fun sl => { sl with g := .sent, sentOk := false, failed := true }) hsl (d := 0)
      (by simp [heldBy, hg])
    exact ⟨inv_setSlot hi _ _ hsl (d := 0) (by simp [heldBy, hg]) hi.heldle, by dsimp only [setSlot] at *; omega⟩
  | slotReplace i v sl hsl =>
    have hm := held_modify (fun sl => ({ lazy := sl.lazy, init := v } : Slot)) hsl
    have hz : heldBy ({ lazy := sl.lazy, init := v } : Slot) = 0 := by simp [heldBy]
    refine ⟨inv_setSlot hi _ _ hsl (d := 0) (by simp [heldBy]) hi.heldle, ?_⟩
    -- the guard of the replaced field goes on as an orphan holding what it held
    have : heldO (if sl.g = .none then [] else [{ g := sl.g, mode := sl.mode, gval := sl.gval }]) = heldBy sl := by
      split <;> simp [heldO, heldByO, heldBy, *]
    simp only [setSlot, heldO_append, this]; omega
  | oDelayAgain j o ho hc =>
    have hfree : held x.b.slots + heldO x.orph < x.b.fgLive := by simpa [freeFG] using hc.2
    exact ⟨inv_dropFG (l := x.b.slots) hi (Nat.lt_of_le_of_lt (Nat.le_add_right _ _) hfree),
      by simp only [dropFG_fields]; omega⟩
  | oDelay j o ho hc =>
    have hfree : held x.b.slots + heldO x.orph < x.b.fgLive := by simpa [freeFG] using hc.2
    have := heldO_modify (fun o => { o with mode := .wait }) ho
    have := heldByO_le_one { o with mode := .wait }
    exact ⟨hi, by dsimp only; omega⟩
  | oGmut j v o ho =>
    have := heldO_modify (fun o => { o with gval := v }) ho
    have : heldByO { o with gval := v } = heldByO o := rfl
    exact ⟨hi, by dsimp only; omega⟩
  | oSend j o ho hg | oSendFail j o ho hg =>
    have := heldO_modify (fun o => { o with g := .sent }) ho
    have : heldByO { o with g := .sent } = heldByO o := by simp [heldByO, hg]
    exact ⟨hi, by dsimp only; omega⟩
  | oReleaseWait j o ho hg hw =>
    have := heldO_erase ho
    have : heldByO o = 1 := by simp [heldByO, hg, hw]
    exact ⟨inv_dropFG (l := x.b.slots) hi (by omega), by simp only [dropFG_fields]; omega⟩
  | oRelease j o ho =>
    have := heldO_erase ho
    exact ⟨hi, by dsimp only; omega⟩

theorem invX_reachable (hr : ReachableX cfg x) : InvX x := by
  induction hr with
  | init => exact ⟨inv_init cfg, by simp [initX, init, held_fresh, heldO]⟩
  | step e _ h ih => exact invX_step ih h

theorem appendedX_unchanged {e : EvX} (h : stepX x e = some x') (he : e ≠ .base .emit) :
    x'.b.appended = x.b.appended := by
  cases stepX_cases h with
  | base e b' _ hs => exact appended_unchanged hs fun hc => he (by rw [hc])
  | _ => simp [setSlot]

/-- **C06 (extended) never twice.** -/
theorem c06_x_at_most_once (hr : ReachableX cfg x) : x.b.appended.length ≤ 1 :=
  (invX_reachable hr).inv.appended_le_one

/-- **C06 (extended) never early.** A step that makes the sink receive the entry is enabled only when the owner and all
handles have begun to drop and either some force-flush guard has begun to drop or **no flush guard is left at all —
neither free, nor in a slot guard, nor in an orphan guard** (a guard whose slot field was replaced and that was handed
a flush guard by `delay_flush` afterwards keeps delaying the append until it is dropped; a guard whose drop panics in
`close()` releases its flush guard like any other). -/
theorem c06_x_not_early {e : EvX} (hr : ReachableX cfg x) (h : stepX x e = some x')
    (hch : x'.b.appended ≠ x.b.appended) :
    x.b.hS = 0 ∧ ((x.b.fgLive = 0 ∧ held x.b.slots = 0 ∧ heldO x.orph = 0) ∨ x.b.dgBegun > 0) := by
  have hx := invX_reachable hr
  have he : e = .base .emit := by
    by_cases he : e = .base .emit
    · exact he
    · exact absurd (appendedX_unchanged h he) hch
  subst he
  cases stepX_cases h with | base _ b' _ hs =>
  cases step_cases hs with | emit hg =>
  obtain ⟨h0, hc⟩ := anyApp_cond_inv hx.inv hg.1
  refine ⟨h0, hc.imp_left fun hc => ?_⟩
  have := hx.heldx
  exact ⟨hc, by omega, by omega⟩

/-- while an orphan guard (or a slot guard) holds a flush guard and no force-flush guard has begun to drop, nothing has
been appended and no thread is in the entry's destructor -/
theorem c06_x_held_guard_delays (hr : ReachableX cfg x) (hh : held x.b.slots + heldO x.orph > 0)
    (hd : x.b.dgBegun = 0) : anyApp x.b = false ∧ x.b.appended = [] := by
  have hx := invX_reachable hr
  refine vS_pos_cond hx.inv (Nat.pos_of_ne_zero fun hv => ?_)
  have := hx.heldx; have := (vS_zero_cond hx.inv hv).2; omega

/-- **C06 (extended) never not at all.** Nothing in flight (orphans included), owner and handles gone, and all flush
guards gone or a force-flush drop returned ⇒ exactly one entry. -/
theorem c06_x_not_late (hr : ReachableX cfg x) (hq : inFlightX x = false) (hown : x.b.hS = 0)
    (hg : x.b.fgLive = 0 ∨ x.b.dgDone > 0) : x.b.appended.length = 1 := by
  simp only [inFlightX, Bool.or_eq_false_iff] at hq
  exact not_late_inv (invX_reachable hr).inv hq.1 hown hg

/-- **C06 (extended) content.** -/
theorem c06_x_content_snapshot (hr : ReachableX cfg x) {a : Appended} (ha : a ∈ x.b.appended) :
    x.b.atDrop = some (a.plain, a.hits) :=
  (invX_reachable hr).inv.appval a ha

/-- the extension loses no behaviour: from a state without orphan guards every step of the base model is a step of the
extended model (the converse holds by the definition of `stepX`) -/
theorem c06_x_conservative {s s' : St} {e : Ev} (h : step s e = some s') (hfree : needsFree e = true → held s.slots < s.fgLive) :
    stepX { b := s } (.base e) = some { b := s' } := by
  simp only [stepX, freeFG, heldO]
  by_cases hn : needsFree e = true
  · have := hfree hn
    simp [hn, this, h]
  · simp [hn, h]

/-- the C06-j shape: open a slot, replace the field while the guard is alive, `delay_flush(flush guard)` on the orphan,
drop the owner: nothing is appended until the orphan is dropped. -/
example : (runX (initX [fresh (false, 3)]) [.base (.open 0 .discard 0), .slotReplace 0 8, .base .newFG, .oDelay 0,
            .base .refDrop, .base .pDecV, .base .pDecG]).map (fun x => (x.b.appended.length, x.b.hS, x.b.pPc, heldO x.orph))
    = some (0, 0, .done, 1) := by decide

example : (runX (initX [fresh (false, 3)]) [.base (.open 0 .discard 0), .slotReplace 0 8, .base .newFG, .oDelay 0,
            .base .refDrop, .base .pDecV, .base .pDecG, .oSend 0, .oRelease 0, .base .innerDrop, .base .closeSlot,
            .base .emit]).map (fun x => (x.b.appended, inFlightX x))
    = some ([⟨0, 0, [none]⟩], false) := by decide

end KeepAlive

#print axioms KeepAlive.c06_x_at_most_once
#print axioms KeepAlive.c06_x_not_early
#print axioms KeepAlive.c06_x_held_guard_delays
#print axioms KeepAlive.c06_x_not_late
#print axioms KeepAlive.c06_x_content_snapshot
#print axioms KeepAlive.c06_x_conservative
