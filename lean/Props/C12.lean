import Props.C12Weight
import Props.C12Congress
import Generated.Sampling
import Mathlib.Data.List.Sort
/-!
# C12 — sampling is consistent and unbiased

Model: `Model/Sampling.lean` (exact dyadic arithmetic, correctly rounded where the code rounds).

A binary32 rate in `(0,1]` is `m · 2^-k` with `0 < m < 2^24`, `m ≤ 2^k` (`c12_f32_rate_shape`); `1/rate = 2^k/m`.
`RateOK m k` adds `1/rate < 2^53`. The weight theorems speak of such `m`, `k` and of the machine word the
draw is made from; the congressional sampler runs over ℚ with the generated constants.
-/
namespace Sampling

/-- **C12 (decision).** `FixedFractionSample` hands the entry to the inner formatter exactly when
`draw ≤ rate`, and then with the sampler's own rate; `CongressSample` does so exactly when
`rate == 1.0 ∨ draw ≤ rate`, with the rate it computed for the entry's group. No other outcome exists.
(The first two conjuncts are the definitions of `fixedDecision` and `congressDecision` written out, to be
compared with the two `format` functions by reading; the last two are their inversions.) -/
theorem c12_emit_iff (draw rate : Dy) :
    (fixedDecision draw rate = if draw.le rate then some rate else none) ∧
    (congressDecision draw rate = if rate.beq one || draw.le rate then some rate else none) ∧
    (∀ r', fixedDecision draw rate = some r' → r' = rate ∧ draw.le rate = true) ∧
    (∀ r', congressDecision draw rate = some r' → r' = rate ∧ (rate.beq one = true ∨ draw.le rate = true)) :=
  ⟨rfl, rfl,
    fun _ h => have ⟨hc, e⟩ := Option.ite_none_right_eq_some.1 h; ⟨(Option.some.inj e).symm, hc⟩,
    fun _ h => have ⟨hc, e⟩ := Option.ite_none_right_eq_some.1 h
      ⟨(Option.some.inj e).symm, Bool.or_eq_true _ _ ▸ hc⟩⟩

/-- The `rate == 1.0 ||` short-circuit of `CongressSample` never changes the decision: a draw of
`rng.random::<f32>()` is `d/2^24 < 1`, so `draw ≤ 1` holds anyway. -/
theorem c12_emit_rate_one (word : Nat) : fixedDecision (drawF32 word) one = some one ∧
    congressDecision (drawF32 word) one = some one := by
  have hle : (drawF32 word).le one = true := by
    show (⟨_, -((24 : Nat) : Int)⟩ : Dy).le ⟨1, -((0 : Nat) : Int)⟩ = true
    simp only [Dy.le, align_neg, decide_eq_true_eq]
    omega
  exact ⟨if_pos hle, if_pos (by rw [hle, Bool.or_true])⟩

/-- `⌊1/rate⌋` for `rate = m·2^-k` -/
def recipFloor (m k : Nat) : Nat := 2 ^ k / m
/-- `⌈1/rate⌉` for `rate = m·2^-k` -/
def recipCeil (m k : Nat) : Nat := if 2 ^ k % m = 0 then 2 ^ k / m else 2 ^ k / m + 1

theorem not_saturated (m k : Nat) (h : RateOK m k) : (⟨m, -(k : Int)⟩ : Dy).lt satThreshold = false := by
  show (⟨m, -(k : Int)⟩ : Dy).lt ⟨1, -((63 : Nat) : Int)⟩ = false
  simp only [Dy.lt, align_neg, decide_eq_false_iff_not, Nat.not_lt, Nat.one_mul]
  by_cases hk : k ≤ 63
  · rw [Nat.sub_eq_zero_of_le hk]
    exact Nat.mul_le_mul h.m_pos (Nat.two_pow_pos _)
  · -- `1/rate < 2^53` with `k > 63` makes `m` larger than `2^(k-63)`
    have hlt := h.recip_lt
    rw [show k = k - 63 + 63 by omega, Nat.pow_add] at hlt
    rw [Nat.sub_eq_zero_of_le (by omega : 63 ≤ k), Nat.pow_zero, Nat.mul_one]
    omega

theorem two_pow_frac (m k : Nat) (h : RateOK m k) : 2 ^ fracBits m k * 2 ^ (53 - fracBits m k) = 2 ^ 53 := by
  rw [← Nat.pow_add, Nat.add_sub_cancel' (Nat.le_trans (up_eq m k h).2 (by decide))]

theorem draw_lt_alpha (word A s : Nat) (hs : s ≤ 52) :
    (drawF64 word).lt ⟨A, -(s : Int)⟩ = decide (word % 2 ^ 64 / 2 ^ 11 < A * 2 ^ (53 - s)) := by
  show (⟨_, -((53 : Nat) : Int)⟩ : Dy).lt ⟨A, -(s : Int)⟩ = _
  rw [Dy.lt, align_neg, Nat.sub_eq_zero_of_le (by omega : s ≤ 53), Nat.pow_zero, Nat.mul_one]

theorem rateToN_eq (m k word : Nat) (h : RateOK m k) :
    rateToN ⟨m, -(k : Int)⟩ (drawF64 word) =
      if word % 2 ^ 64 / 2 ^ 11 < (2 ^ fracBits m k - invSig m k % 2 ^ fracBits m k) * 2 ^ (53 - fracBits m k)
      then invSig m k / 2 ^ fracBits m k else invSig m k / 2 ^ fracBits m k + 1 := by
  unfold rateToN
  rw [not_saturated m k h, rateToNAlpha_eq m k h]
  simp only [Bool.false_eq_true, if_false, draw_lt_alpha _ _ _ (up_eq m k h).2, decide_eq_true_eq]
  have hn := n_small m k h
  rw [min_u64Max _ (by omega)]

/-- **C12 (weight is floor or ceiling).** For every binary32 rate in `(0,1]` with `1/rate < 2^53`
and every value of the random draw, the weight applied to the record is `⌊1/rate⌋` or `⌈1/rate⌉`
(hence within 1 of `1/rate`). -/
theorem c12_weight_floor_ceil (m k word : Nat) (h : RateOK m k) :
    rateToN ⟨m, -(k : Int)⟩ (drawF64 word) = recipFloor m k ∨
    rateToN ⟨m, -(k : Int)⟩ (drawF64 word) = recipCeil m k := by
  have hm := h.m_pos
  rw [rateToN_eq m k word h]
  unfold invSig recipFloor recipCeil
  -- an integer `inv` makes `alpha = 1`
  have hint : ∀ M, M % 2 ^ fracBits m k = 0 →
      word % 2 ^ 64 / 2 ^ 11 < (2 ^ fracBits m k - M % 2 ^ fracBits m k) * 2 ^ (53 - fracBits m k) := fun M h0 => by
    rw [h0, Nat.sub_zero, two_pow_frac m k h]
    exact Nat.div_lt_of_lt_mul (Nat.mod_lt _ (Nat.two_pow_pos 64))
  generalize fracBits m k = s at *
  -- with `Q = ⌊2^(k+s)/m⌋`: `⌊2^k/m⌋ = Q / 2^s`
  have hfl : 2 ^ (k + s) / m / 2 ^ s = 2 ^ k / m := by
    rw [Nat.div_div_eq_div_mul, Nat.pow_add, Nat.mul_div_mul_right _ _ (Nat.two_pow_pos s)]
  -- if `2^k` is a multiple of `m` then so is `2^(k+s)`, and `Q` is a multiple of `2^s`
  have hexact : 2 ^ k % m = 0 → 2 ^ (k + s) % m = 0 ∧ (2 ^ (k + s) / m) % 2 ^ s = 0 := by
    intro h0
    obtain ⟨c, hc⟩ := Nat.dvd_of_mod_eq_zero h0
    rw [Nat.pow_add, hc, Nat.mul_assoc, Nat.mul_mod_right, Nat.mul_div_cancel_left _ hm, Nat.mul_mod_left]
    exact ⟨rfl, rfl⟩
  rcases divRne_cases (2 ^ (k + s)) m with ⟨e, -⟩ | ⟨e, hrem⟩ <;> rw [e]
  · -- `inv = Q/2^s`, so `⌊inv⌋ = ⌊1/rate⌋`
    rw [hfl]
    by_cases h0 : 2 ^ k % m = 0
    · rw [if_pos (hint _ (hexact h0).2)]; exact .inl rfl
    · rw [if_neg h0]; exact ite_eq_or_eq ..
  · -- `inv = (Q+1)/2^s` was rounded up, so `1/rate` is not an integer
    have h0 : 2 ^ k % m ≠ 0 := fun h0 => by
      rw [(hexact h0).1] at hrem; exact Nat.not_succ_le_zero _ (Nat.le_trans hm hrem)
    rw [if_neg h0, Nat.succ_div, hfl]
    by_cases hdvd : 2 ^ s ∣ 2 ^ (k + s) / m + 1
    · rw [if_pos hdvd, if_pos (hint _ (Nat.mod_eq_zero_of_dvd hdvd))]; exact .inr rfl
    · rw [if_neg hdvd]; exact ite_eq_or_eq ..

/-- **C12 (alpha).** `alpha = A/2^s` with `0 < A ≤ 2^s` and `s ≤ 52`: alpha lies in `(0,1]` and is a
multiple of `2^-52`, hence a binary64 number: the subtraction that computes it does not round; so for
a draw uniform on `{d/2^53 : d < 2^53}` the event `draw < alpha` has exactly `A·2^(53-s)` of the
`2^53` outcomes, i.e. probability `alpha`. -/
theorem c12_alpha_range (m k : Nat) (h : RateOK m k) :
    ∃ A s : Nat, (rateToNAlpha ⟨m, -(k : Int)⟩).2 = ⟨A, -(s : Int)⟩ ∧ 0 < A ∧ A ≤ 2 ^ s ∧ s ≤ 52 ∧
      A * 2 ^ (53 - s) ≤ 2 ^ 53 ∧
      ∀ word, (drawF64 word).lt ⟨A, -(s : Int)⟩ = decide (word % 2 ^ 64 / 2 ^ 11 < A * 2 ^ (53 - s)) := by
  have hs := (up_eq m k h).2
  have hlt : invSig m k % 2 ^ fracBits m k < 2 ^ fracBits m k := Nat.mod_lt _ (Nat.two_pow_pos _)
  refine ⟨_, _, by rw [rateToNAlpha_eq m k h], Nat.sub_pos_of_lt hlt, Nat.sub_le .., hs, ?_,
    fun w => draw_lt_alpha w _ _ hs⟩
  rw [← two_pow_frac m k h]
  exact Nat.mul_le_mul_right _ (Nat.sub_le ..)

/-- **C12 (unbiased).** With `inv = M/2^s` (the binary64 value of `1.0/rate`), `n = ⌊inv⌋` and
`alpha = A/2^s` (first two conjuncts):  `alpha·n + (1−alpha)·(n+1) = inv` exactly (third conjunct, scaled
by `2^s`; by `c12_alpha_range` the probability of weight `n` is exactly `alpha`, so this is the expectation
over the draw), and `|inv − 1/rate| ≤ 2^-53 / rate` (last two conjuncts, cross-multiplied:
`2^53·|M·m − 2^(k+s)| ≤ 2^(k+s)`). -/
theorem c12_unbiased (m k : Nat) (h : RateOK m k) :
    let s := fracBits m k
    let M := invSig m k
    let n := (rateToNAlpha ⟨m, -(k : Int)⟩).1
    let A := 2 ^ s - M % 2 ^ s
    invRate ⟨m, -(k : Int)⟩ = ⟨M, -(s : Int)⟩ ∧
    (rateToNAlpha ⟨m, -(k : Int)⟩).2 = ⟨A, -(s : Int)⟩ ∧
    A * n + (2 ^ s - A) * (n + 1) = M ∧
    2 ^ 53 * (M * m) ≤ 2 ^ 53 * 2 ^ (k + s) + 2 ^ (k + s) ∧
    2 ^ 53 * 2 ^ (k + s) ≤ 2 ^ 53 * (M * m) + 2 ^ (k + s) := by
  dsimp only
  obtain ⟨h1, -, h3, h4⟩ := invSig_spec m k h
  have hlt := Nat.le_of_lt (Nat.mod_lt (invSig m k) (Nat.two_pow_pos (fracBits m k)))
  -- last two conjuncts: half a unit of rounding error on a quotient of at least `2^52` units
  refine ⟨invRate_eq m k h, congrArg Prod.snd (rateToNAlpha_eq m k h), ?_, by omega⟩
  rw [Nat.sub_sub_self hlt, congrArg Prod.fst (rateToNAlpha_eq m k h), Nat.mul_succ, ← Nat.add_assoc, ← Nat.add_mul,
    Nat.sub_add_cancel hlt]
  exact Nat.div_add_mod ..

/-- **C12 (saturation).** Below `1.0 / (i64::MAX as f32) = 2^-63` the weight is `u64::MAX`, whatever the draw. -/
theorem c12_saturates (rate draw : Dy) (h : rate.lt satThreshold = true) :
    rateToN rate draw = 2 ^ 64 - 1 := if_pos h

/-- the generated threshold exponent is the one of the model -/
theorem c12_sat_threshold_generated : satThreshold = ⟨1, -(Generated.Sampling.satExp : Int)⟩ := by decide

/-- **C12 (counts).** Every entry of every `Counts` array of the record is the observation's number
of occurrences (1 for a plain observation) times — saturating — one and the same weight
`rateToN rate draw`; skipped (NaN) observations contribute nothing. -/
theorem c12_counts_scaled (rate draw : Dy) (metrics : List (List Obs)) :
    recordCounts rate draw metrics = metrics.map (fun obs =>
      (obs.filter (· ≠ .skipped)).map fun o => match o with
        | .single => rateToN rate draw
        | .repeated occ => min (occ * rateToN rate draw) (2 ^ 64 - 1)
        | .skipped => 0) := by
  unfold recordCounts
  congr 1
  funext obs
  induction obs with
  | nil => rfl
  | cons o os ih =>
    unfold countsOf at ih ⊢
    cases o <;> simp only [List.filterMap_cons, List.filter_cons, ih] <;> rfl

def genConsts : Consts := ⟨Generated.Sampling.window, Generated.Sampling.ttl⟩

theorem genConsts_window : 1 ≤ genConsts.window := by decide

/-- the state reached from a fresh sampler by an arbitrary history -/
def reach (target : Nat) (ops : List Op) : State ℚ := run Q genConsts (State.init target) ops

theorem reach_inv (target : Nat) (ht : 0 < target) (ops : List Op) :
    Inv (reach target ops) ∧ (reach target ops).target = target :=
  run_inv genConsts genConsts_window (State.init target) ops (inv_init target) ht

theorem reach_updateRates (target : Nat) (ht : 0 < target) (ops : List Op) (order : List Key) :
    let s' := updateRates Q genConsts order (reach target ops)
    (∀ g ∈ s'.groups, GroupInv g ∧ g.cur = 0) ∧
    ((reach target ops).cur ≤ target → ∀ g ∈ s'.groups, g.rate = 1) ∧
    (target < (reach target ops).cur →
      (s'.groups.map fun g => g.avg * g.rate).sum ≤ (target : ℚ) ∧
      ∀ g ∈ s'.groups, ∀ h ∈ s'.groups, g.avg ≤ h.avg → h.rate ≤ g.rate) := by
  obtain ⟨hinv, htgt⟩ := reach_inv target ht ops
  have := updateRates_spec genConsts genConsts_window order _ hinv (htgt.symm ▸ ht)
  rwa [htgt] at this

/-- **C12 (congress, range).** After any history — groups appearing, vanishing, bursting, empty
intervals — every group's rate lies in `(0,1]`, and so does the rate handed out for the next entry
of any group (known or new). -/
theorem c12_congress_rate_range (target : Nat) (ht : 0 < target) (ops : List Op) :
    (∀ g ∈ (reach target ops).groups, 0 < g.rate ∧ g.rate ≤ 1) ∧
    ∀ gid, 0 < (observe Q (reach target ops) gid).2 ∧ (observe Q (reach target ops) gid).2 ≤ 1 :=
  have h := (reach_inv target ht ops).1
  ⟨fun g hg => ⟨(h g hg).rate_pos, (h g hg).rate_le⟩, fun gid => (observe_inv _ gid h).2⟩

/-- **C12 (congress, below target).** If the interval that just ended saw no more entries than the
target, every group's rate is 1. (`(reach …).cur` counts the entries since the last end of interval:
`c12_congress_counts`.) -/
theorem c12_congress_below_target (target : Nat) (ht : 0 < target) (ops : List Op) (order : List Key)
    (hle : (reach target ops).cur ≤ target) :
    ∀ g ∈ (updateRates Q genConsts order (reach target ops)).groups, g.rate = 1 :=
  (reach_updateRates target ht ops order).2.1 hle

/-- **C12 (congress, budget).** If the interval saw more than the target, then
`Σ_g average_g · rate_g ≤ target` (the quantity the code bounds: `average_g · rate_g ≤
size_in_congress_g · scale_factor`, and the sizes times the scale factor sum to the target). -/
theorem c12_congress_budget (target : Nat) (ht : 0 < target) (ops : List Op) (order : List Key)
    (hgt : target < (reach target ops).cur) :
    ((updateRates Q genConsts order (reach target ops)).groups.map fun g => g.avg * g.rate).sum ≤ (target : ℚ) :=
  ((reach_updateRates target ht ops order).2.2 hgt).1

/-- **C12 (congress, monotone).** A rarer group is never sampled at a lower rate than a more
frequent one: `average_g ≤ average_h → rate_h ≤ rate_g` (trivially so when all rates are 1). -/
theorem c12_congress_monotone (target : Nat) (ht : 0 < target) (ops : List Op) (order : List Key) :
    ∀ g ∈ (updateRates Q genConsts order (reach target ops)).groups,
    ∀ h ∈ (updateRates Q genConsts order (reach target ops)).groups, g.avg ≤ h.avg → h.rate ≤ g.rate := by
  have hspec := reach_updateRates target ht ops order
  intro g hg h hh hav
  by_cases hle : (reach target ops).cur ≤ target
  · rw [hspec.2.1 hle g hg, hspec.2.1 hle h hh]
  · exact (hspec.2.2 (Nat.lt_of_not_le hle)).2 g hg h hh hav

/-- every group's moving average is positive after an end of interval (no division by zero, no
`average <= 0` fallback) -/
theorem c12_congress_avg_pos (target : Nat) (ht : 0 < target) (ops : List Op) (order : List Key) :
    ∀ g ∈ (updateRates Q genConsts order (reach target ops)).groups, 0 < g.avg := fun g hg =>
  have h := (reach_updateRates target ht ops order).1 g hg
  h.1.avg_pos (h.1.seen h.2)

/-- What one step does to `cur`: an entry adds 1, `n` entries add `n`, an end of interval resets it to 0
(so `cur` counts the entries formatted since the last end of interval). -/
theorem c12_congress_counts (C : Consts) (s : State ℚ) :
    (∀ gid, (step Q C s (.obs gid)).cur = s.cur + 1) ∧
    (∀ gid n, (step Q C s (.obsN gid n)).cur = s.cur + n) ∧
    (∀ order, (step Q C s (.endInterval order)).cur = 0) :=
  ⟨fun _ => rfl, fun gid n => (observeN_target_cur s gid n).2, fun order => (updateRates_target_cur C order s).2⟩

theorem bumpFirst_zero {α : Type} (gid : Key) (gs : List (Group α)) : bumpFirst gid 0 gs = gs := by
  induction gs with
  | nil => rfl
  | cons g gs ih =>
    by_cases h : g.gid = gid
    · subst h; simp [bumpFirst]
    · simp [bumpFirst, h, ih]

theorem bumpFirst_add {α : Type} (gid : Key) (a b : Nat) (gs : List (Group α)) :
    bumpFirst gid a (bumpFirst gid b gs) = bumpFirst gid (b + a) gs := by
  induction gs with
  | nil => rfl
  | cons g gs ih =>
    by_cases h : g.gid = gid
    · simp [bumpFirst, h, Nat.add_assoc]
    · simp [bumpFirst, h, ih]

theorem observeGroups_twice {α : Type} (A : Arith α) (gid : Key) (gs : List (Group α)) :
    (observeGroups A gid (observeGroups A gid gs).1).1 = bumpFirst gid 1 (observeGroups A gid gs).1 := by
  induction gs with
  | nil => simp [observeGroups, bumpFirst]
  | cons g gs ih =>
    by_cases h : g.gid = gid
    · simp [observeGroups, bumpFirst, h]
    · simp [observeGroups, bumpFirst, h, ih]

/-- `n` single observations of one group equal the bulk increment the driver uses. -/
theorem c12_obsN_bulk {α : Type} (A : Arith α) (s : State α) (gid : Key) (n : Nat) :
    observeN A s gid n = observeBulk A s gid n := by
  induction n generalizing s with
  | zero => simp [observeN, observeBulk]
  | succ n ih =>
    rw [observeN, ih]
    cases n with
    | zero => simp [observeBulk, observe, bumpFirst_zero]
    | succ n =>
      simp only [observeBulk, observe, Nat.add_one_ne_zero, if_false, Nat.add_sub_cancel]
      rw [observeGroups_twice, bumpFirst_add]
      simp only [Nat.add_comm, Nat.add_left_comm]

/-- the order `group.sort_unstable()` sorts by -/
def PairLe (a b : Pair) : Prop := pairLe a b = true

instance : DecidableRel PairLe := fun a b => inferInstanceAs (Decidable (pairLe a b = true))

theorem pairLe_iff (a b : Pair) : PairLe a b ↔ a.1 < b.1 ∨ (a.1 = b.1 ∧ a.2 ≤ b.2) := by
  simp [PairLe, pairLe]

instance : Std.Total PairLe := ⟨fun a b => by simp only [pairLe_iff]; omega⟩
instance : IsTrans Pair PairLe := ⟨fun a b c => by simp only [pairLe_iff]; omega⟩
instance : Std.Antisymm PairLe := ⟨fun a b h1 h2 => by
  rw [pairLe_iff] at h1 h2
  exact Prod.ext (by omega) (by omega)⟩

theorem insertPair_eq (a : Pair) (l : Key) : insertPair a l = List.orderedInsert PairLe a l := by
  induction l with
  | nil => rfl
  | cons b l ih =>
    simp only [insertPair, List.orderedInsert_cons, ih, PairLe]
    rfl

theorem canon_eq (l : Key) : canon l = List.insertionSort PairLe l := by
  induction l with
  | nil => rfl
  | cons a l ih =>
    show insertPair a (canon l) = _
    rw [ih, insertPair_eq]; rfl

theorem canon_perm {l l' : Key} (h : l.Perm l') : canon l = canon l' := by
  rw [canon_eq, canon_eq]
  apply List.Perm.eq_of_pairwise' (r := PairLe) (List.pairwise_insertionSort _ _) (List.pairwise_insertionSort _ _)
  exact (List.perm_insertionSort _ _).trans (h.trans (List.perm_insertionSort _ _).symm)

theorem canon_is_perm (l : Key) : (canon l).Perm l := by
  rw [canon_eq]; exact List.perm_insertionSort _ _

/-- two entry-level operations that differ only in the order of the yielded pairs -/
inductive EOp.Similar : EOp → EOp → Prop
  | entry {p p' : Key} : p.Perm p' → EOp.Similar (.entry p) (.entry p')
  | entries {p p' : Key} (n : Nat) : p.Perm p' → EOp.Similar (.entries p n) (.entries p' n)
  | endInterval (order : List Key) : EOp.Similar (.endInterval order) (.endInterval order)

/-- two histories that differ only in the order in which each entry yields its pairs -/
inductive Similar : List EOp → List EOp → Prop
  | nil : Similar [] []
  | cons {a b : EOp} {l m : List EOp} : EOp.Similar a b → Similar l m → Similar (a :: l) (b :: m)

/-- **C12 (group identity).** For every arithmetic (so for the binary32 twin and for ℚ), every
`validate_groups` setting, every starting state and every two histories that differ only by
permuting, entry by entry, the `(key, value)` pairs the entries yield (`a.merge(b)` vs `b.merge(a)`,
fields declared in another order, duplicate keys included): the sampler reaches the same state — the
same groups, volumes, averages and rates — panics on the same entries, and hands the same rate to the
next entry however that entry spells its group. -/
theorem c12_group_order_irrelevant {α : Type} (A : Arith α) (C : Consts) (validate : Bool) (s : State α)
    (eops eops' : List EOp) (h : Similar eops eops') :
    runE A C canon validate s eops = runE A C canon validate s eops' ∧
    ∀ p p' : Key, p.Perm p' →
      entryRate A canon validate (runE A C canon validate s eops) p =
      entryRate A canon validate (runE A C canon validate s eops') p' := by
  have hops : eops.filterMap (toOp canon validate) = eops'.filterMap (toOp canon validate) := by
    induction h with
    | nil => rfl
    | @cons a b _ _ hab _ ih =>
      have : toOp canon validate a = toOp canon validate b := by
        cases hab with
        | entry hp | entries _ hp => simp only [toOp, entryKey, canon_perm hp]
        | endInterval => rfl
      simp only [List.filterMap_cons, this, ih]
  have hrun : runE A C canon validate s eops = runE A C canon validate s eops' := congrArg (run A C s) hops
  refine ⟨hrun, fun p p' hp => ?_⟩
  rw [hrun]; simp only [entryRate, entryKey, canon_perm hp]

/-- `runE` written out (its definition): a history of entries is run as the history of the observations
`toOp κ validate` translates them to, so every theorem about `run` applies to entry-level histories. -/
theorem c12_entries_are_observations {α : Type} (A : Arith α) (C : Consts) (κ : Key → Key) (validate : Bool)
    (s : State α) (eops : List EOp) :
    runE A C κ validate s eops = run A C s (eops.filterMap (toOp κ validate)) := rfl

/-- a history in which one group (`op=1,status=1`, 300 entries) is yielded in both orders, and a
rarer group (`op=2,status=1`, 200 entries) in one, in an interval above the target of 100 -/
def splitHistory : List EOp :=
  [.entries [(1,1),(2,1)] 150, .entries [(2,1),(1,1)] 150, .entries [(1,2),(2,1)] 200, .endInterval []]

/-- **The sort is needed.** Without it (`κ = id`: the group key is the list as yielded) the frequent
group is tracked as two groups of 150, and its entries are then sampled at a *higher* rate (5/24)
than those of the rarer group (3/16): monotonicity over true group volumes fails. With the sort
(`κ = canon`) the same history gives 2/11 ≤ 5/22. (Evaluated over ℚ by the kernel.) -/
theorem c12_sort_needed :
    entryRate Q id false (runE Q genConsts id false (State.init 100) splitHistory) [(1,1),(2,1)] = some (5/24) ∧
    entryRate Q id false (runE Q genConsts id false (State.init 100) splitHistory) [(1,2),(2,1)] = some (3/16) ∧
    entryRate Q canon false (runE Q genConsts canon false (State.init 100) splitHistory) [(2,1),(1,1)] = some (2/11) ∧
    entryRate Q canon false (runE Q genConsts canon false (State.init 100) splitHistory) [(1,2),(2,1)] = some (5/22) := by
  -- the bulk entries in closed form, then evaluation
  simp only [runE, run, splitHistory, List.filterMap_cons, List.filterMap_nil, toOp, entryKey, Bool.false_and,
    Bool.false_eq_true, if_false, Option.map_some, List.foldl_cons, List.foldl_nil, step, c12_obsN_bulk]
  decide +kernel

/-- with `validate_groups` a duplicate key panics whatever the order, without it the entry is sampled -/
example : entryKey canon true [(2,1),(1,1),(2,7)] = none ∧ entryKey canon true [(2,7),(2,1),(1,1)] = none ∧
    entryKey canon false [(2,7),(2,1),(1,1)] = some [(1,1),(2,1),(2,7)] := by decide

def AllOne (s : State ℚ) : Prop := ∀ g ∈ s.groups, g.rate = 1

theorem observe_allOne (s : State ℚ) (key : Key) (h : AllOne s) :
    (observe Q s key).2 = 1 ∧ AllOne (observe Q s key).1 := by
  obtain ⟨h1, h2⟩ := observeGroups_forall Q (·.rate = 1) key Nat.cast_one (fun _ hg => hg) s.groups h
  exact ⟨h2.elim (·.trans Nat.cast_one) fun ⟨g, hg, e⟩ => e.trans (h g hg), h1⟩

/-- `sample_rate` with the clock read on every call -/
theorem sampleRateAt_one {α : Type} (A : Arith α) (C : Consts) (order : List Key) (c : Clocked α) (now : Nat)
    (key : Key) :
    sampleRateAt A C 1 order c now key =
      if c.next < now then
        (⟨(observe A (updateRates A C order c.st) key).1, now + c.interval, c.interval⟩,
          (observe A (updateRates A C order c.st) key).2)
      else (⟨(observe A c.st key).1, c.next, c.interval⟩, (observe A c.st key).2) := by
  simp only [sampleRateAt, rollsOver, Nat.mod_one, beq_self_eq_true, Bool.true_and, decide_eq_true_eq]
  split <;> rfl

/-- **C12 (real clock).** `sample_rate` reads the clock on every call (`stride = 1`). For a sampler
state reached by any history (`Inv`), with the generated constants:
(1) a call at a time past `next_interval_start` rolls the interval over exactly once — whatever the
    elapsed time — sets `next_interval_start = now + interval`, and counts the entry in the new interval;
(2) if the interval that ends there saw no more than the target, that entry and (3) every later entry
    up to the next roll-over is handed rate 1, and all group rates are 1;
(4) the history invariant is preserved, so (1)–(3) apply along every timed history. -/
theorem c12_clock_rollover (order : List Key) (c : Clocked ℚ) (now : Nat) (key : Key)
    (hinv : Inv c.st) (ht : 0 < c.st.target) :
    let r := sampleRateAt Q genConsts 1 order c now key
    (c.next < now → r.1.next = now + c.interval ∧ r.1.st.cur = 1 ∧
        r.1.st = (observe Q (updateRates Q genConsts order c.st) key).1) ∧
    (c.next < now → c.st.cur ≤ c.st.target → r.2 = 1 ∧ AllOne r.1.st) ∧
    (¬ c.next < now → AllOne c.st → r.2 = 1 ∧ AllOne r.1.st ∧ r.1.next = c.next ∧ r.1.st.cur = c.st.cur + 1) ∧
    (Inv r.1.st ∧ r.1.st.target = c.st.target ∧ 0 < r.2 ∧ r.2 ≤ 1) := by
  dsimp only
  rw [sampleRateAt_one]
  have hupd := updateRates_target_cur genConsts order c.st
  by_cases hroll : c.next < now
  · rw [if_pos hroll]
    have hspec := updateRates_spec genConsts genConsts_window order c.st hinv ht
    -- the state after `update_rates` as a variable: nothing below looks inside it
    generalize updateRates Q genConsts order c.st = s' at hupd hspec ⊢
    have hobs := observe_inv s' key fun g hg => (hspec.1 g hg).1
    exact ⟨fun _ => ⟨rfl, congrArg (· + 1) hupd.2, rfl⟩, fun _ hle => observe_allOne s' key (hspec.2.1 hle),
      fun h => absurd hroll h, hobs.1, hupd.1, hobs.2⟩
  · rw [if_neg hroll]
    have hobs := observe_inv _ key hinv
    exact ⟨fun h => absurd h hroll, fun h => absurd h hroll,
      fun _ hone => ⟨(observe_allOne _ key hone).1, (observe_allOne _ key hone).2, rfl, rfl⟩, hobs.1, rfl, hobs.2⟩

/-- 8 entries per interval (interval 1000 ns, entries 10 ns apart), three intervals, target 10 -/
def steadyEight : List (Nat × Key × List Key) :=
  (List.range 24).map fun i => ((i / 8) * 1100 + (i % 8) * 10 + 1, [(1, 1)], [[(1, 1)]])

/-- **The clock must be read on every call.** With the clock consulted only every 16th observation
(`stride = 16`) a steady 8 entries per interval under a target of 10 — no interval ever above the
target — is sampled at 5/8 from the 17th entry on; with `stride = 1` (the code) every rate is 1.
(Evaluated over ℚ by the kernel.) -/
theorem c12_clock_stride_breaks :
    (runClocked Q genConsts 16 ⟨State.init 10, 0, 1000⟩ steadyEight).2 =
      List.replicate 16 1 ++ List.replicate 8 (5/8) ∧
    (runClocked Q genConsts 1 ⟨State.init 10, 0, 1000⟩ steadyEight).2 = List.replicate 24 1 := by
  decide +kernel

/-- **C12 (default RNG).** `DefaultRng<R>` is transparent: for every script of the inner generator and
every sequence of `RngCore` calls (`next_u32`, `next_u64`, `fill_bytes`, and the `f32`/`f64` draws made
from them) the wrapper returns exactly what the inner generator returns. So the draws of the default
path (`Emf::with_sampling()`, `FixedFractionSample::new`, `CongressSampleBuilder::build`) have the inner
generator's distribution, and `c12_unbiased` / `c12_alpha_range` apply to it unchanged. -/
theorem c12_default_rng_transparent (s : Script) (calls : List RngCall) :
    runCalls (wrapperCall false) s calls = runCalls innerCall s calls := by
  induction calls generalizing s with
  | nil => rfl
  | cons c cs ih =>
    have h : wrapperCall false s c = innerCall s c := by cases c <;> rfl
    simp only [runCalls, h, ih]

/-- `0.4f32 = 13421773 · 2^-25` is a rate the weight theorems apply to -/
theorem rateOK_two_fifths : RateOK 13421773 25 := ⟨by decide, by decide, by decide, by decide⟩

/-- an `f64` draw made from a zero-extended `u32` has a numerator below `2^21` -/
theorem narrow_draw_lt (x : Nat) : x % 2 ^ 64 / 2 ^ 32 % 2 ^ 64 / 2 ^ 11 < 2 ^ 21 :=
  Nat.div_lt_of_lt_mul (Nat.lt_of_le_of_lt (Nat.mod_le _ _) (Nat.div_lt_of_lt_mul (Nat.mod_lt _ (Nat.two_pow_pos 64))))

/-- **Why `next_u64` must forward to `next_u64`.** If it returned `next_u32` zero-extended
(`narrow = true`), every `f64` draw would be below `2^-32` (numerator `< 2^21` of `2^53`) whatever the
inner generator does, and for rate `0.4f32 = 13421773·2^-25` the weight would be `2 = ⌊1/rate⌋` for every
word: the ceiling 3 would never be chosen and the expectation would be 2, not `1/rate ≈ 2.5`. -/
theorem c12_default_rng_narrow_breaks :
    (∀ s : Script, ∃ d, (wrapperCall true s .f64).1 = [d] ∧ d < 2 ^ 21) ∧
    (∀ word : Nat, rateToN ⟨13421773, -(25 : Nat)⟩ (drawF64 (word % 2 ^ 64 / 2 ^ 32)) = 2) ∧
    (∃ word : Nat, rateToN ⟨13421773, -(25 : Nat)⟩ (drawF64 word) = 3) := by
  refine ⟨fun s => ⟨_, rfl, narrow_draw_lt _⟩, fun word => ?_, ⟨2 ^ 64 - 1, by decide +kernel⟩⟩
  have hf : fracBits 13421773 25 = 51 := by decide +kernel
  have hM : invSig 13421773 25 = 5629499450327041 := by decide +kernel
  rw [rateToN_eq 13421773 25 _ rateOK_two_fifths, hf, hM,
    if_pos (Nat.lt_of_lt_of_le (narrow_draw_lt word) (by decide))]
  decide

/-- Every binary32 bit pattern of a rate in `(0,1]` (`0 < bits ≤ 0x3f800000`) decodes to `m·2^-k` with a
24-bit `m`, `0 < m ≤ 2^k`: the shape the weight theorems are stated for. -/
theorem c12_f32_rate_shape (bits : Nat) (h0 : 0 < bits) (h1 : bits ≤ 0x3f800000) :
    ∃ m k : Nat, f32Decode bits = some ⟨m, -(k : Int)⟩ ∧ 0 < m ∧ m < 2 ^ 24 ∧ m ≤ 2 ^ k := by
  have hf : bits % 2 ^ 23 < 2 ^ 23 := Nat.mod_lt _ (by decide)
  have hdm := Nat.div_add_mod bits (2 ^ 23)
  unfold f32Decode
  generalize bits / 2 ^ 23 = e at hdm ⊢
  generalize bits % 2 ^ 23 = f at hdm hf ⊢
  have he : e ≤ 127 := by omega
  simp only [Nat.mod_eq_of_lt (Nat.lt_of_le_of_lt he (by decide : 127 < 256))]
  rw [if_neg (by omega), if_neg (by omega)]
  by_cases hz : e = 0
  · rw [if_pos hz]
    exact ⟨f, 149, rfl, by omega, hf.trans (by decide), Nat.le_of_lt (Nat.lt_trans hf (by decide))⟩
  · rw [if_neg hz, show (e : Int) - 150 = -((150 - e : Nat) : Int) by omega]
    refine ⟨_, _, rfl, by omega, by omega, ?_⟩
    by_cases h127 : e = 127
    · obtain rfl : f = 0 := by omega
      rw [h127]; decide
    · exact Nat.le_trans (by omega : f + 2 ^ 23 ≤ 2 ^ 24) (Nat.pow_le_pow_right Nat.two_pos (by omega))

example : RateOK 13421773 25 := rateOK_two_fifths
example : f32Decode 0x3ecccccd = some ⟨13421773, -25⟩ := by decide
/-- its weights are 2 and 3, alpha = (2^51 − (M mod 2^51))/2^51 -/
example : recipFloor 13421773 25 = 2 ∧ recipCeil 13421773 25 = 3 := by decide

end Sampling

#print axioms Sampling.c12_emit_iff
#print axioms Sampling.c12_emit_rate_one
#print axioms Sampling.c12_weight_floor_ceil
#print axioms Sampling.c12_alpha_range
#print axioms Sampling.c12_unbiased
#print axioms Sampling.c12_saturates
#print axioms Sampling.c12_sat_threshold_generated
#print axioms Sampling.c12_counts_scaled
#print axioms Sampling.c12_congress_rate_range
#print axioms Sampling.c12_congress_below_target
#print axioms Sampling.c12_congress_budget
#print axioms Sampling.c12_congress_monotone
#print axioms Sampling.c12_congress_avg_pos
#print axioms Sampling.c12_congress_counts
#print axioms Sampling.c12_obsN_bulk
#print axioms Sampling.c12_group_order_irrelevant
#print axioms Sampling.c12_entries_are_observations
#print axioms Sampling.c12_sort_needed
#print axioms Sampling.c12_clock_rollover
#print axioms Sampling.c12_clock_stride_breaks
#print axioms Sampling.c12_default_rng_transparent
#print axioms Sampling.c12_default_rng_narrow_breaks
#print axioms Sampling.c12_f32_rate_shape
