import Model.Histogram
/-!
# C11 — lemmas

Bucket-layout arithmetic for grouping power 4 (`cfg4 M`: a value is filed under its shift
`q = ⌊log₂ n⌋ - 4` and its five leading bits `k = ⌊n / 2^q⌋`, in bucket `16 q + k`), the bucket
array, the interleaving invariant of the atomic variant, sort-and-merge, and the exact binary64
scaling. The property theorems (`c11_…`) are in `Props/C11.lean`.
-/
namespace Histogram
open Config

theorem pow_add_four (q : Nat) : 2 ^ (q + 4) = 16 * 2 ^ q := by
  rw [Nat.pow_add]; omega

theorem log2_sub_four_of_lt {n : Nat} (h : n < 32) : n.log2 - 4 = 0 := by
  by_cases h0 : n = 0
  · subst h0; rfl
  · have : n.log2 < 5 := (Nat.log2_lt h0).2 h
    omega

theorem two_pow_log2 {n : Nat} (h : 16 ≤ n) : 2 ^ n.log2 = 16 * 2 ^ (n.log2 - 4) := by
  rw [← pow_add_four, Nat.sub_add_cancel ((Nat.le_log2 (by omega)).2 h)]

theorem lead_bits (n : Nat) :
    n / 2 ^ (n.log2 - 4) < 32 ∧ (n.log2 - 4 = 0 ∨ 16 ≤ n / 2 ^ (n.log2 - 4)) := by
  by_cases h : n < 32
  · rw [log2_sub_four_of_lt h]
    exact ⟨by omega, .inl rfl⟩
  · have hlo := Nat.log2_self_le (n := n) (by omega)
    have hhi := @Nat.lt_log2_self n
    rw [Nat.pow_succ, two_pow_log2 (by omega)] at hhi
    rw [two_pow_log2 (by omega)] at hlo
    have hW := Nat.two_pow_pos (n.log2 - 4)
    exact ⟨(Nat.div_lt_iff_lt_mul hW).2 (by omega), .inr ((Nat.le_div_iff_mul_le hW).2 hlo)⟩

theorem log2_sub_four_eq {q k m : Nat} (hk : k < 32) (hq : q = 0 ∨ 16 ≤ k)
    (hlo : k * 2 ^ q ≤ m) (hhi : m < (k + 1) * 2 ^ q) : m.log2 - 4 = q := by
  rcases hq with rfl | hq
  · exact log2_sub_four_of_lt (by omega)
  · have h1 : 16 * 2 ^ q ≤ k * 2 ^ q := Nat.mul_le_mul_right _ hq
    have h2 : (k + 1) * 2 ^ q ≤ 32 * 2 ^ q := Nat.mul_le_mul_right _ hk
    have hW := Nat.two_pow_pos q
    have : m.log2 = q + 4 := (Nat.log2_eq_iff (by omega)).2
      ⟨by rw [pow_add_four]; omega, by rw [Nat.pow_succ, pow_add_four]; omega⟩
    omega

/-- The layout with grouping power 4 (16 sub-buckets per power of two). -/
def cfg4 (M : Nat) : Config := ⟨4, M⟩

theorem totalBuckets_cfg4 (M : Nat) (hM : 5 ≤ M) : (cfg4 M).totalBuckets = 16 * (M - 3) := by
  simp only [cfg4, totalBuckets, lowerBinCount, cutoffValue, cutoffPower, upperBinCount, upperBinDivisions]
  omega

/-- Bucket `16 q + k` (`k < 32`, and `16 ≤ k` unless `q = 0`: every index has exactly one such
form) holds the values whose five leading bits are `k`, followed by `q` more bits. -/
theorem bounds_cfg4 (M q k : Nat) (hM : 5 ≤ M) (hk : k < 32) (hq : q = 0 ∨ 16 ≤ k)
    (hi : 16 * q + k < 16 * (M - 3)) :
    (cfg4 M).lowerBound (16 * q + k) = k * 2 ^ q ∧
      (cfg4 M).upperBound (16 * q + k) = (k + 1) * 2 ^ q - 1 := by
  have hT : (cfg4 M).lowerBinCount + (cfg4 M).upperBinCount = 16 * (M - 3) := totalBuckets_cfg4 M hM
  unfold lowerBound upperBound
  rw [hT]
  clear hT
  simp only [cfg4, Config.max, Nat.shiftRight_eq_div_pow, Nat.reducePow]
  by_cases h16 : k < 16
  · obtain rfl : q = 0 := hq.resolve_right (Nat.not_le.2 h16)
    have hne : ¬ k = 16 * (M - 3) - 1 := by omega
    simp [Nat.div_eq_of_lt h16, hne]
  · obtain ⟨h, rfl⟩ : ∃ h, k = 16 + h := ⟨k - 16, (Nat.add_sub_cancel' (Nat.le_of_not_lt h16)).symm⟩
    have hh : h < 16 := Nat.lt_of_add_lt_add_left (n := 16) hk
    have hg : ¬ q + 1 < 1 := Nat.not_lt.2 (Nat.le_add_left 1 q)
    rw [← Nat.add_assoc, ← Nat.mul_succ, Nat.mul_add_div (by decide), Nat.div_eq_of_lt hh, Nat.add_zero,
      Nat.mul_comm 16, Nat.add_sub_cancel_left, if_neg hg, if_neg hg, Nat.add_sub_cancel, ← Nat.add_assoc,
      Nat.add_sub_cancel, Nat.pow_add]
    refine ⟨by rw [Nat.add_mul, Nat.mul_comm (2 ^ q)], ?_⟩
    split
    · obtain ⟨rfl, rfl⟩ : M = q + 5 ∧ h = 15 := by omega
      rw [Nat.pow_add, Nat.mul_comm]
    · rw [Nat.add_assoc 16, Nat.add_mul, Nat.mul_comm (2 ^ q)]

theorem valueToIndex_cfg4 (M n : Nat) (hn : n < 2 ^ M) :
    (cfg4 M).valueToIndex n = some (16 * (n.log2 - 4) + n / 2 ^ (n.log2 - 4)) := by
  simp only [valueToIndex, cfg4, cutoffValue, cutoffPower, Config.max, lowerBinCount, upperBinDivisions,
    Nat.shiftRight_eq_div_pow, Nat.reduceAdd, Nat.reducePow]
  by_cases h : n < 32
  · rw [if_pos h, log2_sub_four_of_lt h, Nat.pow_zero, Nat.div_one, Nat.mul_zero, Nat.zero_add]
  · have hp : 5 ≤ n.log2 := (Nat.le_log2 (by omega)).2 (Nat.le_of_not_lt h)
    have hk := (lead_bits n).2
    rw [if_neg h, if_neg (by omega), two_pow_log2 (by omega), Nat.mul_comm 16, Nat.sub_mul_div]
    congr 1
    omega

theorem index_form (i : Nat) : ∃ q k, i = 16 * q + k ∧ k < 32 ∧ (q = 0 ∨ 16 ≤ k) :=
  ⟨i / 16 - 1, i - 16 * (i / 16 - 1), by omega⟩

theorem upperBound_le_max (M i : Nat) (hM : 5 ≤ M) (hi : i < (cfg4 M).totalBuckets) :
    (cfg4 M).upperBound i ≤ (cfg4 M).max := by
  rw [totalBuckets_cfg4 M hM] at hi
  obtain ⟨q, k, rfl, hk, hq⟩ := index_form i
  rw [(bounds_cfg4 M q k hM hk hq hi).2]
  have h1 : (k + 1) * 2 ^ q ≤ 32 * 2 ^ q := Nat.mul_le_mul_right _ hk
  have h2 : 2 ^ (q + 1 + 4) ≤ 2 ^ M := Nat.pow_le_pow_right Nat.two_pos (by omega)
  rw [pow_add_four, Nat.pow_succ] at h2
  exact Nat.sub_le_sub_right (show (k + 1) * 2 ^ q ≤ 2 ^ M by omega) 1

theorem bucket_of (M n : Nat) (hM : 5 ≤ M) (hn : n < 2 ^ M) :
    ∃ i, i < (cfg4 M).totalBuckets ∧ (cfg4 M).valueToIndex n = some i ∧
      (cfg4 M).lowerBound i ≤ n ∧ n ≤ (cfg4 M).upperBound i ∧
      (cfg4 M).upperBound i + 1 - (cfg4 M).lowerBound i = 2 ^ (n.log2 - 4) ∧
      (32 ≤ n → 16 * 2 ^ (n.log2 - 4) ≤ (cfg4 M).lowerBound i ∧ 2 ≤ 2 ^ (n.log2 - 4)) := by
  obtain ⟨hk, hq⟩ := lead_bits n
  have hp : n.log2 - 4 ≤ M - 5 := by
    by_cases h0 : n = 0
    · subst h0; exact Nat.zero_le _
    · have := (Nat.log2_lt h0).2 hn; omega
  have hi : 16 * (n.log2 - 4) + n / 2 ^ (n.log2 - 4) < 16 * (M - 3) := by omega
  obtain ⟨hlo, hup⟩ := bounds_cfg4 M _ _ hM hk hq hi
  refine ⟨_, totalBuckets_cfg4 M hM ▸ hi, valueToIndex_cfg4 M n hn, ?_⟩
  have h1 := Nat.div_mul_le_self n (2 ^ (n.log2 - 4))
  have h2 := Nat.lt_mul_div_succ n (Nat.two_pow_pos (n.log2 - 4))
  rw [Nat.mul_comm, Nat.add_mul, Nat.one_mul] at h2
  rw [hlo, hup, Nat.add_mul, Nat.one_mul]
  clear hlo hup hi hp
  refine ⟨h1, by omega, by omega, fun h32 => ?_⟩
  have hp5 : 1 + 4 ≤ n.log2 := (Nat.le_log2 (Nat.ne_of_gt (Nat.lt_of_lt_of_le (by decide) h32))).2 h32
  exact ⟨Nat.mul_le_mul_right _ (hq.resolve_left (Nat.sub_ne_zero_of_lt hp5)),
    Nat.pow_le_pow_right Nat.two_pos (Nat.le_sub_of_add_le hp5)⟩

theorem bucket_unique (M i m : Nat) (hM : 5 ≤ M) (hi : i < (cfg4 M).totalBuckets)
    (hlo : (cfg4 M).lowerBound i ≤ m) (hhi : m ≤ (cfg4 M).upperBound i) :
    (cfg4 M).valueToIndex m = some i := by
  have hm : m < 2 ^ M :=
    Nat.lt_of_le_pred (Nat.two_pow_pos M) (Nat.le_trans hhi (upperBound_le_max M i hM hi))
  rw [totalBuckets_cfg4 M hM] at hi
  obtain ⟨q, k, rfl, hk, hq⟩ := index_form i
  obtain ⟨e1, e2⟩ := bounds_cfg4 M q k hM hk hq hi
  rw [e1] at hlo
  rw [e2] at hhi
  have hhi' : m < (k + 1) * 2 ^ q := Nat.lt_of_le_sub_one (Nat.mul_pos k.succ_pos (Nat.two_pow_pos q)) hhi
  rw [valueToIndex_cfg4 M m hm, log2_sub_four_eq hk hq hlo hhi', Nat.div_eq_of_lt_le hlo hhi']

/-- `x = X/den` is the exact scaled value (`X`, `den` arbitrary naturals), `n = ⌊x⌋` what `as u64`
yields. If `n ≥ 32` the bucket midpoint `mid` satisfies `|mid − x| ≤ x/16`, stated without division. -/
theorem rel_error (M X den : Nat) (hM : 5 ≤ M) (hden : 0 < den) (hn : X / den < 2 ^ M) (h32 : 32 ≤ X / den) :
    ∃ i, (cfg4 M).valueToIndex (X / den) = some i ∧
      16 * ((cfg4 M).midpoint i * den) ≤ 17 * X ∧ 15 * X ≤ 16 * ((cfg4 M).midpoint i * den) := by
  obtain ⟨i, -, hidx, hlo, hup, hw, hbig⟩ := bucket_of M (X / den) hM hn
  obtain ⟨h16, hW2⟩ := hbig h32
  have l1 : 16 * (cfg4 M).midpoint i ≤ 17 * (X / den) := by unfold midpoint; omega
  have l2 : 15 * (X / den + 1) ≤ 16 * (cfg4 M).midpoint i := by unfold midpoint; omega
  refine ⟨i, hidx, ?_, ?_⟩
  · calc 16 * ((cfg4 M).midpoint i * den) = 16 * (cfg4 M).midpoint i * den := (Nat.mul_assoc ..).symm
      _ ≤ 17 * (X / den) * den := Nat.mul_le_mul_right den l1
      _ = 17 * (X / den * den) := Nat.mul_assoc ..
      _ ≤ 17 * X := Nat.mul_le_mul_left 17 (Nat.div_mul_le_self X den)
  · calc 15 * X ≤ 15 * ((X / den + 1) * den) :=
          Nat.mul_le_mul_left 15 (Nat.mul_comm .. ▸ Nat.le_of_lt (Nat.lt_mul_div_succ X hden))
      _ = 15 * (X / den + 1) * den := (Nat.mul_assoc ..).symm
      _ ≤ 16 * (cfg4 M).midpoint i * den := Nat.mul_le_mul_right den l2
      _ = 16 * ((cfg4 M).midpoint i * den) := Nat.mul_assoc ..

/-- `n = ⌊x⌋ < 32` is its own bucket and midpoint, so `|mid − x| < 1`, i.e. `|mid·den − X| < den`. -/
theorem abs_error (M X den : Nat) (hM : 5 ≤ M) (hden : 0 < den) (h32 : X / den < 32) :
    (cfg4 M).valueToIndex (X / den) = some (X / den) ∧ (cfg4 M).midpoint (X / den) = X / den ∧
      X / den * den ≤ X ∧ X < X / den * den + den := by
  have hX := Nat.lt_mul_div_succ X hden
  rw [Nat.mul_succ, Nat.mul_comm den] at hX
  have hidx := valueToIndex_cfg4 M (X / den)
    (Nat.lt_of_lt_of_le h32 (Nat.pow_le_pow_right Nat.two_pos hM : 2 ^ 5 ≤ 2 ^ M))
  obtain ⟨hlo, hup⟩ := bounds_cfg4 M 0 (X / den) hM h32 (.inl rfl) (by omega)
  simp only [log2_sub_four_of_lt h32, Nat.pow_zero, Nat.div_one, Nat.mul_zero, Nat.zero_add, Nat.mul_one,
    Nat.add_sub_cancel] at hidx hlo hup
  exact ⟨hidx, by rw [midpoint, hlo, hup]; omega, Nat.div_mul_le_self X den, hX⟩

theorem midpoint_index (M i : Nat) (hM : 5 ≤ M) (hi : i < (cfg4 M).totalBuckets) :
    (cfg4 M).valueToIndex ((cfg4 M).midpoint i) = some i := by
  have hle : (cfg4 M).lowerBound i ≤ (cfg4 M).upperBound i := by
    obtain ⟨q, k, rfl, hk, hq⟩ := index_form i
    obtain ⟨e1, e2⟩ := bounds_cfg4 M q k hM hk hq (totalBuckets_cfg4 M hM ▸ hi)
    rw [e1, e2, Nat.add_mul, Nat.one_mul]
    have := Nat.two_pow_pos q
    omega
  exact bucket_unique M i _ hM hi (by unfold midpoint; omega) (by unfold midpoint; omega)

theorem setAt_eq_set (bs : List Nat) (i v : Nat) : setAt bs i v = bs.set i v := by
  induction bs generalizing i with
  | nil => rfl
  | cons b bs ih => cases i <;> simp only [setAt, List.set_cons_zero, List.set_cons_succ, ih]

theorem setAt_length (bs : List Nat) (i v : Nat) : (setAt bs i v).length = bs.length := by
  rw [setAt_eq_set, List.length_set]

theorem getD_setAt (bs : List Nat) (i j v : Nat) :
    (setAt bs j v).getD i 0 = if i = j ∧ j < bs.length then v else bs.getD i 0 := by
  rw [setAt_eq_set, List.getD_eq_getElem?_getD, List.getD_eq_getElem?_getD, List.getElem?_set]
  by_cases h : j = i
  · subst h; by_cases h' : j < bs.length <;> simp [h']
  · simp [h, Ne.symm h]

theorem addAt_eq_setAt (bs : List Nat) (i n : Nat) :
    addAt bs i n = setAt bs i ((bs.getD i 0 + n) % 2 ^ 64) := by
  induction bs generalizing i with
  | nil => rfl
  | cons b bs ih => cases i <;> simp only [addAt, setAt, ih, List.getD_cons_zero, List.getD_cons_succ]

theorem addAt_length (bs : List Nat) (i n : Nat) : (addAt bs i n).length = bs.length := by
  rw [addAt_eq_setAt, setAt_length]

theorem getD_addAt (bs : List Nat) (i j n : Nat) :
    (addAt bs j n).getD i 0 = if i = j ∧ j < bs.length then (bs.getD j 0 + n) % 2 ^ 64 else bs.getD i 0 := by
  rw [addAt_eq_setAt, getD_setAt]

theorem le_sum_of_getD (bs : List Nat) (i : Nat) : bs.getD i 0 ≤ bs.sum := by
  induction bs generalizing i with
  | nil => simp
  | cons b bs ih =>
    cases i with
    | zero => simp
    | succ i => have := ih i; simp only [List.getD_cons_succ, List.sum_cons]; omega

theorem addAt_sum (bs : List Nat) (i n : Nat) (hi : i < bs.length) (h : bs.sum + n < 2 ^ 64) :
    (addAt bs i n).sum = bs.sum + n := by
  induction bs generalizing i with
  | nil => simp at hi
  | cons b bs ih =>
    cases i with
    | zero =>
      simp only [addAt, List.sum_cons] at h ⊢
      rw [Nat.mod_eq_of_lt (by omega)]; omega
    | succ i =>
      simp only [addAt, List.sum_cons, List.length_cons] at h hi ⊢
      rw [ih i (by omega) (by omega)]; omega

theorem nonEmptyFrom_sum (bs : List Nat) (k : Nat) : ((nonEmptyFrom bs k).map (·.2)).sum = bs.sum := by
  induction bs generalizing k with
  | nil => rfl
  | cons b bs ih =>
    simp only [nonEmptyFrom]
    split
    · simp [ih]
    · have : b = 0 := by omega
      simp [ih, this]

theorem nonEmptyFrom_pos (bs : List Nat) (k : Nat) : ∀ e ∈ nonEmptyFrom bs k, 0 < e.2 := by
  induction bs generalizing k with
  | nil => simp [nonEmptyFrom]
  | cons b bs ih =>
    simp only [nonEmptyFrom]
    split
    · intro e he
      rcases List.mem_cons.mp he with h | h
      · subst h; assumption
      · exact ih _ e h
    · exact ih _

theorem addAt_append (pre tl : List Nat) (x n : Nat) :
    addAt (pre ++ x :: tl) pre.length n = pre ++ ((x + n) % 2 ^ 64) :: tl := by
  induction pre with
  | nil => rfl
  | cons p pre ih => simp [addAt, ih]

/-- re-recording midpoints rebuilds the bucket array, in any layout that files each bucket's midpoint
under that bucket -/
theorem readdAll_nonEmptyFrom (c : Config) (hmid : ∀ i < c.totalBuckets, c.valueToIndex (c.midpoint i) = some i)
    (bs pre : List Nat) (hlen : pre.length + bs.length = c.totalBuckets) (hb : ∀ b ∈ bs, b < 2 ^ 64) :
    readdAll c (pre ++ List.replicate bs.length 0) (nonEmptyFrom bs pre.length) = pre ++ bs := by
  induction bs generalizing pre with
  | nil => simp [nonEmptyFrom, readdAll]
  | cons b bs ih =>
    have hb' : ∀ x ∈ bs, x < 2 ^ 64 := fun x hx => hb x (List.mem_cons_of_mem _ hx)
    have hbb : b < 2 ^ 64 := hb b List.mem_cons_self
    simp only [List.length_cons] at hlen
    have step := ih (pre ++ [b]) (by simp only [List.length_append, List.length_singleton]; omega) hb'
    simp only [List.length_append, List.length_singleton, List.append_assoc, List.singleton_append] at step
    simp only [nonEmptyFrom]
    split
    · simp only [readdAll, add]
      rw [hmid pre.length (by omega)]
      simp only [List.length_cons, List.replicate_succ]
      rw [addAt_append, Nat.zero_add, Nat.mod_eq_of_lt hbb]
      exact step
    · have : b = 0 := by omega
      subst this
      simpa only [List.length_cons, List.replicate_succ] using step

def countSum (recs : List (Nat × Nat)) : Nat := (recs.map (·.2)).sum

theorem scaleFloorPow_le (s bits : Nat) : scaleFloorPow s bits ≤ u64Max := by
  unfold scaleFloorPow
  split
  · exact Nat.le_refl _
  · split
    · exact Nat.zero_le _
    · exact Nat.min_le_right _ _

theorem recordAll_sum (p : Params)
    (hp : ∀ v ≤ u64Max, ∃ i < p.cfg.totalBuckets, p.cfg.valueToIndex v = some i)
    (recs : List (Nat × Nat)) (bs : List Nat)
    (hlen : bs.length = p.cfg.totalBuckets) (h : bs.sum + countSum recs < 2 ^ 64) :
    (recordAll p bs recs).sum = bs.sum + countSum recs ∧ (recordAll p bs recs).length = bs.length := by
  induction recs generalizing bs with
  | nil => exact ⟨rfl, rfl⟩
  | cons r recs ih =>
    obtain ⟨v, n⟩ := r
    obtain ⟨i, hi, hidx⟩ := hp _ (scaleFloorPow_le p.scalePow v)
    have hcs : countSum ((v, n) :: recs) = n + countSum recs := rfl
    rw [hcs] at h ⊢
    have hadd : recordMany p bs v n = addAt bs i n := by simp only [recordMany, add, hidx]
    obtain ⟨h1, h2⟩ := ih (recordMany p bs v n) (by rw [hadd, addAt_length, hlen])
      (by rw [hadd, addAt_sum bs i n (hlen ▸ hi) (by omega)]; omega)
    rw [recordAll, h1, h2, hadd, addAt_sum bs i n (hlen ▸ hi) (by omega), addAt_length]
    exact ⟨by omega, rfl⟩

theorem cfg4_covers_u64 (v : Nat) (hv : v ≤ u64Max) :
    ∃ i < (cfg4 64).totalBuckets, (cfg4 64).valueToIndex v = some i := by
  obtain ⟨i, hi, hidx, -⟩ := bucket_of 64 v (by decide) (Nat.lt_of_le_of_lt hv (by decide))
  exact ⟨i, hi, hidx⟩

/-- what bucket `i` has received so far and where it is now: still in the shared array, or in the
snapshot of exactly one drainer -/
def credit (s : AState) (i : Nat) : Nat :=
  s.buckets.getD i 0 + (s.drainers.map fun d => d.got.getD i 0).sum

def addsTo (i : Nat) : List Ev → Nat
  | [] => 0
  | .add j n :: es => (if j = i then n else 0) + addsTo i es
  | _ :: es => addsTo i es

theorem getD_of_length_le (l : List Nat) (i : Nat) (h : l.length ≤ i) : l.getD i 0 = 0 := by
  rw [List.getD_eq_getElem?_getD, List.getElem?_eq_none h]; rfl

theorem getD_snoc (l : List Nat) (x i : Nat) :
    (l ++ [x]).getD i 0 = if i = l.length then x else l.getD i 0 := by
  induction l generalizing i with
  | nil => cases i <;> simp
  | cons a l ih =>
    cases i with
    | zero => simp
    | succ i => simp only [List.cons_append, List.getD_cons_succ, ih, List.length_cons, Nat.add_right_cancel_iff]

theorem stepDrainer_credit (buckets : List Nat) (ds : List Drainer) (k i : Nat) :
    (stepDrainer buckets ds k).1.getD i 0 + ((stepDrainer buckets ds k).2.map fun d => d.got.getD i 0).sum
      = buckets.getD i 0 + (ds.map fun d => d.got.getD i 0).sum ∧
    (stepDrainer buckets ds k).1.length = buckets.length := by
  induction ds generalizing k with
  | nil => simp [stepDrainer]
  | cons d ds ih =>
    cases k with
    | zero =>
      simp only [stepDrainer]
      split
      · rename_i hlt
        simp only [List.map_cons, List.sum_cons, getD_setAt, getD_snoc, setAt_length]
        refine ⟨?_, trivial⟩
        by_cases hi : i = d.got.length
        · subst hi
          simp only [hlt, and_self, if_true]
          rw [getD_of_length_le d.got _ (Nat.le_refl _)]
          omega
        · simp only [hi, false_and, if_false]
      · simp
    | succ k =>
      have := ih k
      simp only [stepDrainer, List.map_cons, List.sum_cons]
      omega

theorem step_length (s : AState) (e : Ev) : (s.step e).buckets.length = s.buckets.length := by
  cases e with
  | add i n => simp [AState.step, addAt_length]
  | start => simp [AState.step]
  | swap d => simp [AState.step, (stepDrainer_credit s.buckets s.drainers d 0).2]

theorem step_credit (s : AState) (e : Ev) (i : Nat) (hi : i < s.buckets.length)
    (h : credit s i + addsTo i [e] < 2 ^ 64) : credit (s.step e) i = credit s i + addsTo i [e] := by
  cases e with
  | add j n =>
    simp only [credit, AState.step, getD_addAt, addsTo, Nat.add_zero] at h ⊢
    by_cases hj : j = i
    · subst hj
      rw [if_pos ⟨rfl, hi⟩, if_pos rfl, Nat.mod_eq_of_lt (by rw [if_pos rfl] at h; omega)]
      omega
    · rw [if_neg fun hh => hj hh.1.symm, if_neg hj, Nat.add_zero]
  | start => simp [credit, AState.step, addsTo]
  | swap d => exact (stepDrainer_credit s.buckets s.drainers d i).1

theorem addsTo_cons (i : Nat) (e : Ev) (es : List Ev) : addsTo i (e :: es) = addsTo i [e] + addsTo i es := by
  cases e <;> simp [addsTo]

theorem run_credit (evs : List Ev) (s : AState) (i : Nat) (hi : i < s.buckets.length)
    (h : credit s i + addsTo i evs < 2 ^ 64) :
    credit (s.run evs) i = credit s i + addsTo i evs := by
  induction evs generalizing s with
  | nil => rfl
  | cons e evs ih =>
    rw [addsTo_cons] at h ⊢
    have hc := step_credit s e i hi (by omega)
    rw [AState.run, ih _ (step_length s e ▸ hi) (by omega), hc, Nat.add_assoc]

theorem samLe_of_key_eq {a b : Nat} (h : samKey a = samKey b) : samLe a b = true := by
  unfold samLe; rw [h]; cases samKey b <;> simp

theorem samLe_trans (a b c : Nat) (h1 : samLe a b = true) (h2 : samLe b c = true) : samLe a c = true := by
  unfold samLe at *
  cases ha : samKey a <;> cases hb : samKey b <;> cases hc : samKey c <;> simp_all
  omega

theorem samLe_total (a b : Nat) : (samLe a b || samLe b a) = true := by
  unfold samLe
  cases samKey a <;> cases samKey b <;> simp
  omega

theorem samLe_antisymm {a b : Nat} (h1 : samLe a b = true) (h2 : samLe b a = true) : samKey a = samKey b := by
  unfold samLe at *
  cases ha : samKey a <;> cases hb : samKey b <;> simp_all
  omega

/-- strictly below in `OrderedFloat`'s order -/
def samLt (a b : Nat) : Prop := samLe a b = true ∧ samKey a ≠ samKey b

theorem groupGo_sorted (cur cnt : Nat) (rest : List Nat)
    (h : (cur :: rest).Pairwise fun a b => samLe a b = true) :
    (∀ r ∈ groupGo cur cnt rest, samLe cur r.1 = true) ∧
      (groupGo cur cnt rest).Pairwise fun a b => samLt a.1 b.1 := by
  induction rest generalizing cur cnt with
  | nil => simp [groupGo, samLe_of_key_eq]
  | cons v rest ih =>
    obtain ⟨hcur, hrest⟩ := List.pairwise_cons.mp h
    have hcv : samLe cur v = true := hcur v List.mem_cons_self
    simp only [groupGo]
    split
    · exact ih cur (cnt + 1) (List.pairwise_cons.mpr
        ⟨fun x hx => hcur x (List.mem_cons_of_mem _ hx), (List.pairwise_cons.mp hrest).2⟩)
    · rename_i hne
      obtain ⟨ih1, ih2⟩ := ih v 1 hrest
      refine ⟨List.forall_mem_cons.2 ⟨samLe_of_key_eq rfl, fun r hr => samLe_trans _ _ _ hcv (ih1 r hr)⟩,
        List.pairwise_cons.mpr ⟨fun r hr => ⟨samLe_trans _ _ _ hcv (ih1 r hr), fun hk => ?_⟩, ih2⟩⟩
      -- key r = key cur would force key v = key cur
      exact hne (samLe_antisymm (samLe_trans _ _ _ (ih1 r hr) (samLe_of_key_eq hk.symm)) hcv)

/-- occurrences reported for key `k` -/
def rowsCount (k : Option Int) : List (Nat × Nat) → Nat
  | [] => 0
  | r :: rs => (if samKey r.1 = k then r.2 else 0) + rowsCount k rs

theorem groupGo_count (k : Option Int) (cur cnt : Nat) (rest : List Nat) :
    rowsCount k (groupGo cur cnt rest) =
      (if samKey cur = k then cnt else 0) + rest.countP (samKey · == k) := by
  induction rest generalizing cur cnt with
  | nil => simp [groupGo, rowsCount]
  | cons v rest ih =>
    simp only [groupGo, List.countP_cons, beq_iff_eq]
    split
    · rename_i heq
      rw [ih, heq]
      split <;> omega
    · simp only [rowsCount, ih]
      omega

theorem groupRuns_count (k : Option Int) (l : List Nat) :
    rowsCount k (groupRuns l) = l.countP (samKey · == k) := by
  cases l with
  | nil => rfl
  | cons v rest => simp only [groupRuns, groupGo_count, List.countP_cons, beq_iff_eq]; omega

theorem countP_filter_nan (x : Int) (l : List Nat) :
    (l.filter fun b => !f64IsNaN b).countP (samKey · == some x) = l.countP (samKey · == some x) := by
  rw [List.countP_filter]
  refine List.countP_congr fun v _ => ?_
  simp only [Bool.and_eq_true, beq_iff_eq, Bool.not_eq_true', and_iff_left_iff_imp]
  intro hk
  unfold samKey at hk
  split at hk
  · cases hk
  · exact Bool.eq_false_iff.2 ‹_›

theorem groupGo_mem (cur cnt : Nat) (rest : List Nat) (hc : 0 < cnt) :
    ∀ r ∈ groupGo cur cnt rest, 0 < r.2 ∧ r.1 ∈ cur :: rest := by
  induction rest generalizing cur cnt with
  | nil => exact List.forall_mem_singleton.2 ⟨hc, List.mem_cons_self⟩
  | cons v rest ih =>
    simp only [groupGo]
    split
    · intro r hr
      obtain ⟨h1, h2⟩ := ih cur (cnt + 1) (Nat.succ_pos _) r hr
      exact ⟨h1, (List.mem_cons.1 h2).elim (· ▸ List.mem_cons_self)
        fun h => List.mem_cons_of_mem _ (List.mem_cons_of_mem _ h)⟩
    · exact List.forall_mem_cons.2 ⟨⟨hc, List.mem_cons_self⟩,
        fun r hr => ⟨(ih v 1 Nat.one_pos r hr).1, List.mem_cons_of_mem _ (ih v 1 Nat.one_pos r hr).2⟩⟩

theorem groupRuns_spec (l : List Nat) (h : l.Pairwise fun a b => samLe a b = true) :
    (groupRuns l).Pairwise (fun a b => samLt a.1 b.1) ∧ ∀ r ∈ groupRuns l, 0 < r.2 ∧ r.1 ∈ l := by
  cases l with
  | nil => exact ⟨List.Pairwise.nil, fun _ hr => nomatch hr⟩
  | cons v rest => exact ⟨(groupGo_sorted v 1 rest h).2, groupGo_mem v 1 rest Nat.one_pos⟩

/-- everything recorded into a sort-and-merge histogram by a sequence of `record_many` calls -/
def samRecordAll (vals : List Nat) : List (Nat × Nat) → List Nat
  | [] => vals
  | (v, n) :: rest => samRecordAll (samRecordMany vals v n) rest

theorem sam_drain_spec (vals : List Nat) :
    (samDrain vals).Pairwise (fun a b => samLt a.1 b.1) ∧
      (∀ r ∈ samDrain vals, f64IsNaN r.1 = false ∧ 0 < r.2 ∧ r.1 ∈ vals) ∧
      (∀ x : Int, rowsCount (some x) (samDrain vals) = vals.countP (samKey · == some x)) := by
  obtain ⟨h1, h2⟩ := groupRuns_spec _ ((List.pairwise_mergeSort samLe_trans samLe_total vals).filter _)
  refine ⟨h1, fun r hr => ?_, ?_⟩
  · obtain ⟨hpos, hin⟩ := h2 r hr
    obtain ⟨hv, hnan⟩ := List.mem_filter.mp hin
    exact ⟨by simpa using hnan, hpos, (List.mergeSort_perm vals samLe).mem_iff.mp hv⟩
  · intro x
    unfold samDrain
    rw [groupRuns_count, countP_filter_nan, (List.mergeSort_perm vals samLe).countP_eq]

/-- numerator / denominator of the magnitude of a finite binary64 (`mant · 2^(expo − 1075)`) -/
def f64Num (bits : Nat) : Nat :=
  if 1075 ≤ f64Expo bits then f64Mant bits * 2 ^ (f64Expo bits - 1075) else f64Mant bits
def f64Den (bits : Nat) : Nat :=
  if 1075 ≤ f64Expo bits then 1 else 2 ^ (1075 - f64Expo bits)

theorem f64Den_pos (bits : Nat) : 0 < f64Den bits := by
  unfold f64Den; split
  · omega
  · exact Nat.two_pow_pos _

/-- `(v * 2^s).min(u64::MAX as f64) as u64` is exactly `min ⌊2^s · v⌋ (2^64 − 1)` for every
non-NaN, non-negative `v`. -/
theorem scaleFloor_exact (s bits : Nat) (hnan : f64IsNaN bits = false) (hsign : f64Sign bits ≠ 1) :
    scaleFloorPow s bits = Nat.min (2 ^ s * f64Num bits / f64Den bits) u64Max := by
  unfold scaleFloorPow f64Num f64Den
  simp only [hnan, hsign, if_false, Bool.false_eq_true]
  generalize f64Mant bits = m
  generalize f64Expo bits = e
  congr 1
  by_cases h1 : 1075 ≤ e
  · have h2 : 1075 ≤ e + s := by omega
    rw [if_pos h1, if_pos h1, if_pos h2, Nat.div_one]
    have he : e + s - 1075 = s + (e - 1075) := by omega
    rw [he, Nat.pow_add, Nat.mul_left_comm]
  · rw [if_neg h1, if_neg h1]
    by_cases h2 : 1075 ≤ e + s
    · rw [if_pos h2]
      have hs : s = (1075 - e) + (e + s - 1075) := by omega
      have : 2 ^ s = 2 ^ (1075 - e) * 2 ^ (e + s - 1075) := by
        rw [← Nat.pow_add, ← hs]
      rw [this, Nat.mul_assoc, Nat.mul_div_cancel_left _ (Nat.two_pow_pos _), Nat.mul_comm]
    · rw [if_neg h2]
      have hs : 1075 - e = s + (1075 - (e + s)) := by omega
      have : 2 ^ (1075 - e) = 2 ^ s * 2 ^ (1075 - (e + s)) := by
        rw [← Nat.pow_add, ← hs]
      rw [this, Nat.mul_div_mul_left _ _ (Nat.two_pow_pos _)]

theorem recordAll_append (p : Params) (bs : List Nat) (a b : List (Nat × Nat)) :
    recordAll p bs (a ++ b) = recordAll p (recordAll p bs a) b := by
  induction a generalizing bs with
  | nil => rfl
  | cons r a ih => obtain ⟨v, n⟩ := r; simp only [List.cons_append, recordAll, ih]

theorem addValue_eq (ops : CaptureOps) (p : Params) (bs : List Nat) (obs : List Obs) :
    addValue ops p bs obs = recordAll p bs (captureAll ops obs) := by
  induction obs generalizing bs with
  | nil => rfl
  | cons o obs ih =>
    simp only [addValue, ih, captureAll, List.filterMap_cons]
    rcases captureStep ops o with _ | ⟨v, n⟩ <;> rfl

theorem addValues_eq (ops : CaptureOps) (p : Params) (bs : List Nat) (calls : List (List Obs)) :
    addValues ops p bs calls = recordAll p bs (calls.flatMap (captureAll ops)) := by
  induction calls generalizing bs with
  | nil => rfl
  | cons c calls ih => simp only [addValues, List.flatMap_cons, recordAll_append, ih, addValue_eq]

theorem countSum_append (a b : List (Nat × Nat)) : countSum (a ++ b) = countSum a + countSum b := by
  simp [countSum]

theorem countSum_captureAll (ops : CaptureOps) (obs : List Obs) :
    countSum (captureAll ops obs) = (obs.map Obs.count).sum := by
  induction obs with
  | nil => rfl
  | cons o obs ih =>
    rw [List.map_cons, List.sum_cons, ← ih]
    -- an observation is captured with its count; an empty repeat is skipped and counts 0
    rcases o with v | b | ⟨t, _ | n⟩
    · rfl
    · rfl
    · exact (Nat.zero_add _).symm
    · rfl

theorem countSum_flatMap_captureAll (ops : CaptureOps) (calls : List (List Obs)) :
    countSum (calls.flatMap (captureAll ops)) = (calls.flatten.map Obs.count).sum := by
  induction calls with
  | nil => rfl
  | cons c calls ih =>
    simp only [List.flatMap_cons, countSum_append, ih, countSum_captureAll, List.flatten_cons, List.map_append,
      List.sum_append]

theorem samRecordAll_append (vals : List Nat) (a b : List (Nat × Nat)) :
    samRecordAll vals (a ++ b) = samRecordAll (samRecordAll vals a) b := by
  induction a generalizing vals with
  | nil => rfl
  | cons r a ih => obtain ⟨v, n⟩ := r; simp only [List.cons_append, samRecordAll, ih]

theorem samAddValue_eq (ops : CaptureOps) (vals : List Nat) (obs : List Obs) :
    samAddValue ops vals obs = samRecordAll vals (captureAll ops obs) := by
  induction obs generalizing vals with
  | nil => rfl
  | cons o obs ih =>
    simp only [samAddValue, ih, captureAll, List.filterMap_cons]
    rcases captureStep ops o with _ | ⟨v, n⟩ <;> rfl

theorem samAddValues_eq (ops : CaptureOps) (vals : List Nat) (calls : List (List Obs)) :
    samAddValues ops vals calls = samRecordAll vals (calls.flatMap (captureAll ops)) := by
  induction calls generalizing vals with
  | nil => rfl
  | cons c calls ih => simp only [samAddValues, List.flatMap_cons, samRecordAll_append, ih, samAddValue_eq]

end Histogram
