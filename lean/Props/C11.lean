import Props.C11Lemmas
import Generated.Histogram
/-!
# C11 — histograms conserve observation counts and stay within their stated error

Theorems about `Model/Histogram.lean` (model of `metrique-aggregation/src/histogram.rs` and of the
`histogram` crate's bucket layout), stated about the constants that T-gen regenerates from the Rust
sources (`Generated/Histogram.lean`): if a configuration or the scale constant changes, the first
theorem below stops checking and with it everything that is stated about `aggCfg` / `aggParams`.

Reading of the statements: a value `v ≥ 0` is the rational `num/den`; `record_many` scales it by
`2^scaleShift` and truncates (`n = ⌊2^scaleShift·num/den⌋`, exact for binary64 inputs by
`c11_scale_exact`); the closed histogram reports the bucket midpoint `mid` divided by `2^scaleShift`.
Inequalities between rationals are stated cross-multiplied, over `Nat`.
-/
namespace Histogram
open Generated.Histogram

/-- **T-gen obligation**: the regenerated constants against the hand-written specification
(grouping power 4 = 1/16 relative bucket width, the whole `u64` range, scale `2^10`; the metrics.rs
bridge histogram covers `u32`). -/
theorem c11_generated_constants :
    aggGroupingPower = 4 ∧ aggMaxValuePower = 64 ∧ scaleShift = 10 ∧
      metricsrsGroupingPower = 4 ∧ metricsrsMaxValuePower = 32 := by decide

/-- `default_histogram_config()` -/
def aggCfg : Config := ⟨aggGroupingPower, aggMaxValuePower⟩
/-- the exponential strategies' parameters -/
def aggParams : Params := ⟨aggCfg, scaleShift⟩
/-- `metrique_metricsrs::metrics_histogram::Histogram::default_configuration()` -/
def metricsrsCfg : Config := ⟨metricsrsGroupingPower, metricsrsMaxValuePower⟩

theorem aggCfg_eq : aggCfg = cfg4 64 := by decide
theorem aggParams_eq : aggParams = ⟨cfg4 64, 10⟩ := by decide
theorem metricsrsCfg_eq : metricsrsCfg = cfg4 32 := by decide

/-- **976 / 464 buckets**, as the repository's own tests expect. -/
theorem c11_bucket_counts : aggCfg.totalBuckets = 976 ∧ metricsrsCfg.totalBuckets = 464 := by
  rw [aggCfg_eq, metricsrsCfg_eq, totalBuckets_cfg4 64 (by omega), totalBuckets_cfg4 32 (by omega)]
  omega

/-- **Bucket bounds.** Every `n < 2^64` has a bucket; the bucket contains it
(`lower ≤ n ≤ upper`) and its width is `2^max(0, ⌊log₂ n⌋ − 4)` (`Nat` subtraction truncates at 0). -/
theorem c11_bucket_bounds (n : Nat) (hn : n < 2 ^ 64) :
    ∃ i, i < aggCfg.totalBuckets ∧ aggCfg.valueToIndex n = some i ∧
      aggCfg.lowerBound i ≤ n ∧ n ≤ aggCfg.upperBound i ∧
      aggCfg.upperBound i + 1 - aggCfg.lowerBound i = 2 ^ (n.log2 - 4) := by
  rw [aggCfg_eq]
  obtain ⟨i, h1, h2, h3, h4, h5, -⟩ := bucket_of 64 n (by omega) hn
  exact ⟨i, h1, h2, h3, h4, h5⟩

/-- the same for the `u32` layout of the metrics.rs bridge -/
theorem c11_bucket_bounds_metricsrs (n : Nat) (hn : n < 2 ^ 32) :
    ∃ i, i < metricsrsCfg.totalBuckets ∧ metricsrsCfg.valueToIndex n = some i ∧
      metricsrsCfg.lowerBound i ≤ n ∧ n ≤ metricsrsCfg.upperBound i ∧
      metricsrsCfg.upperBound i + 1 - metricsrsCfg.lowerBound i = 2 ^ (n.log2 - 4) := by
  rw [metricsrsCfg_eq]
  obtain ⟨i, h1, h2, h3, h4, h5, -⟩ := bucket_of 32 n (by omega) hn
  exact ⟨i, h1, h2, h3, h4, h5⟩

/-- **Buckets are disjoint**: a scaled value inside the range of bucket `i` is mapped to `i`. -/
theorem c11_bucket_unique (i m : Nat) (hi : i < aggCfg.totalBuckets)
    (hlo : aggCfg.lowerBound i ≤ m) (hhi : m ≤ aggCfg.upperBound i) : aggCfg.valueToIndex m = some i := by
  rw [aggCfg_eq] at *
  exact bucket_unique 64 i m (by omega) hi hlo hhi

/-- **Relative error ≤ 6.25 %.** For every value `v = num/den` whose scaled truncation
`n = ⌊2^scaleShift · v⌋` is at least 32 (i.e. `v ≥ 1/32`) and fits `u64`, the reported value
`mid / 2^scaleShift` satisfies `|mid/2^scaleShift − v| ≤ v/16`, i.e.
`16·mid·den ≤ 17·2^scaleShift·num` and `15·2^scaleShift·num ≤ 16·mid·den`. -/
theorem c11_rel_error (num den : Nat) (hden : 0 < den)
    (hfit : 2 ^ scaleShift * num / den < 2 ^ 64) (h32 : 32 ≤ 2 ^ scaleShift * num / den) :
    ∃ i, aggCfg.valueToIndex (2 ^ scaleShift * num / den) = some i ∧
      16 * (aggCfg.midpoint i * den) ≤ 17 * (2 ^ scaleShift * num) ∧
      15 * (2 ^ scaleShift * num) ≤ 16 * (aggCfg.midpoint i * den) := by
  rw [aggCfg_eq]
  exact rel_error 64 (2 ^ scaleShift * num) den (by omega) hden hfit h32

/-- **Absolute error < 1/1024 below 1/32.** If `n = ⌊2^scaleShift · v⌋ < 32` the value is reported
as `n / 2^scaleShift`: `n·den ≤ 2^scaleShift·num < n·den + den`, i.e. `0 ≤ v − n/2^scaleShift < 2^−scaleShift`
(and `scaleShift = 10` by `c11_generated_constants`). -/
theorem c11_abs_error_small (num den : Nat) (hden : 0 < den) (h32 : 2 ^ scaleShift * num / den < 32) :
    aggCfg.valueToIndex (2 ^ scaleShift * num / den) = some (2 ^ scaleShift * num / den) ∧
      aggCfg.midpoint (2 ^ scaleShift * num / den) = 2 ^ scaleShift * num / den ∧
      2 ^ scaleShift * num / den * den ≤ 2 ^ scaleShift * num ∧
      2 ^ scaleShift * num < 2 ^ scaleShift * num / den * den + den := by
  rw [aggCfg_eq]
  exact abs_error 64 (2 ^ scaleShift * num) den (by omega) hden h32

/-- **The scaling is exact on binary64.** For a non-NaN, non-negative bit pattern the integer handed
to the bucket layout is `min ⌊2^scaleShift · v⌋ (2^64 − 1)` where `v = f64Num/f64Den` is the exact value
of the bit pattern — so `c11_rel_error` / `c11_abs_error_small` apply to what `record_many` does with
`num = f64Num bits`, `den = f64Den bits`. -/
theorem c11_scale_exact (bits : Nat) (hnan : f64IsNaN bits = false) (hsign : f64Sign bits ≠ 1) :
    scaleFloorPow scaleShift bits = Nat.min (2 ^ scaleShift * f64Num bits / f64Den bits) u64Max ∧
      0 < f64Den bits :=
  ⟨scaleFloor_exact scaleShift bits hnan hsign, f64Den_pos bits⟩

/-- **Count conservation (sequential).** For any sequence of `record_many` calls — any bit patterns,
NaN and infinities included, any counts — whose counts total less than `2^64`, the closed histogram's
occurrences add up to the number of recorded observations, and every reported row has a positive
count. -/
theorem c11_count_conserved (recs : List (Nat × Nat)) (h : countSum recs < 2 ^ 64) :
    ((drainMid aggParams (recordAll aggParams (emptyBuckets aggCfg) recs)).map (·.2)).sum = countSum recs ∧
      ∀ r ∈ drainMid aggParams (recordAll aggParams (emptyBuckets aggCfg) recs), 0 < r.2 := by
  rw [aggParams_eq, aggCfg_eq]
  have hlen : (emptyBuckets (cfg4 64)).length = (cfg4 64).totalBuckets := by simp [emptyBuckets]
  have hsum : (emptyBuckets (cfg4 64)).sum = 0 := by simp [emptyBuckets]
  obtain ⟨h1, -⟩ := recordAll_sum ⟨cfg4 64, 10⟩ cfg4_covers_u64 recs (emptyBuckets (cfg4 64)) hlen (by omega)
  constructor
  · simp only [drainMid, nonEmpty, List.map_map]
    have : ((fun x : Nat × Nat => x.2) ∘ fun x : Nat × Nat => ((cfg4 64).midpoint x.1, x.2)) = (·.2) := rfl
    rw [this, nonEmptyFrom_sum, h1, hsum, Nat.zero_add]
  · intro r hr
    simp only [drainMid, nonEmpty, List.mem_map] at hr
    obtain ⟨e, he, rfl⟩ := hr
    exact nonEmptyFrom_pos _ _ e he

/-- **Count conservation under concurrency.** Start from the empty atomic histogram and let any
interleaving happen of `fetch_add`s (recorders), drains starting, and drains swapping their next
bucket. Then at every moment and for every bucket `i`: what is still in the shared bucket plus what
the drains have taken out of it is exactly what was added to it — every recorded unit is in exactly
one place (provided the bucket's total stays below `2^64`). -/
theorem c11_concurrent_conserved (evs : List Ev) (i : Nat) (hi : i < aggCfg.totalBuckets)
    (h : addsTo i evs < 2 ^ 64) :
    credit (AState.run ⟨emptyBuckets aggCfg, []⟩ evs) i = addsTo i evs := by
  have hc : credit ⟨emptyBuckets aggCfg, []⟩ i = 0 := by
    simp only [credit, emptyBuckets, List.map_nil, List.sum_nil, Nat.add_zero]
    rw [List.getD_eq_getElem?_getD]
    simp [hi]
  have := run_credit evs ⟨emptyBuckets aggCfg, []⟩ i (by simpa [emptyBuckets] using hi) (by omega)
  omega

/-- The model does not distinguish the atomic from the plain exponential strategy: `Exec.closeAfter` has one
branch for both (`recordAll` / `drainMid`), so this holds by `rfl` and says nothing about the code. That the two
implementations agree sequentially is what the correspondence tests, which runs both on every case. -/
theorem c11_atomic_same (p : Params) (recs : List (Nat × Nat)) :
    Exec.closeAfter p .atomic recs = Exec.closeAfter p .exp recs := rfl

/-- **Re-aggregation fixed point (one bucket)**: the midpoint of every bucket lies in that bucket. -/
theorem c11_midpoint_index (i : Nat) (hi : i < aggCfg.totalBuckets) :
    aggCfg.valueToIndex (aggCfg.midpoint i) = some i := by
  rw [aggCfg_eq] at *
  exact midpoint_index 64 i (by omega) hi

/-- **Re-aggregation fixed point (whole histogram)**: recording, for every non-empty bucket of a
histogram, `count` observations at the bucket's midpoint into an empty histogram reproduces the
histogram exactly — same buckets, same counts, hence the same drained `(midpoint, count)` rows.
(Integer level; the floating-point step `total / occurrences` returns the midpoint exactly while
`midpoint · count < 2^53`, see `notes/C11.md`.) -/
theorem c11_reaggregate_fixed (bs : List Nat) (hlen : bs.length = aggCfg.totalBuckets)
    (hb : ∀ b ∈ bs, b < 2 ^ 64) :
    readdAll aggCfg (emptyBuckets aggCfg) (nonEmpty bs) = bs ∧
      drainMid aggParams (readdAll aggCfg (emptyBuckets aggCfg) (nonEmpty bs)) = drainMid aggParams bs := by
  have key : readdAll aggCfg (emptyBuckets aggCfg) (nonEmpty bs) = bs := by
    rw [aggCfg_eq] at *
    have := readdAll_nonEmptyFrom (cfg4 64) (fun i => midpoint_index 64 i (by decide)) bs [] (by simpa using hlen) hb
    simpa [emptyBuckets, nonEmpty, hlen] using this
  exact ⟨key, by rw [key]⟩

theorem samRecordAll_count (k : Option Int) (recs : List (Nat × Nat)) (vals : List Nat) :
    (samRecordAll vals recs).countP (samKey · == k) =
      vals.countP (samKey · == k) + ((recs.filter fun r => samKey r.1 == k).map (·.2)).sum := by
  induction recs generalizing vals with
  | nil => simp [samRecordAll]
  | cons r recs ih =>
    obtain ⟨v, n⟩ := r
    simp only [samRecordAll, ih, samRecordMany, List.countP_append, List.countP_replicate, List.filter_cons]
    by_cases hk : samKey v = k
    · simp [hk]; omega
    · simp [hk]

/-- **Sort-and-merge is exact.** After any sequence of `record_many` calls the drained rows are
strictly ascending in `OrderedFloat`'s order (so pairwise distinct), contain no NaN, have positive
counts, and for every non-NaN value the occurrences reported for it are exactly the sum of the counts
it was recorded with — equal values merged, nothing else changed. (The reported `total` is the
binary64 product `value · count`, computed in the executable twin and compared with the code.) -/
theorem c11_sort_merge (recs : List (Nat × Nat)) :
    (samDrain (samRecordAll [] recs)).Pairwise (fun a b => samLt a.1 b.1) ∧
      (∀ r ∈ samDrain (samRecordAll [] recs), f64IsNaN r.1 = false ∧ 0 < r.2) ∧
      (∀ x : Int, rowsCount (some x) (samDrain (samRecordAll [] recs)) =
        ((recs.filter fun r => samKey r.1 == some x).map (·.2)).sum) := by
  obtain ⟨h1, h2, h3⟩ := sam_drain_spec (samRecordAll [] recs)
  refine ⟨h1, fun r hr => ⟨(h2 r hr).1, (h2 r hr).2.1⟩, fun x => ?_⟩
  rw [h3 x, samRecordAll_count]
  simp

/-- **Count conservation over `add_value` calls.** Any sequence of `add_value` calls, each of whose
values writes *any list* of observations in one `metric()` call — `Unsigned`, `Floating`, `Repeated`
in any mix and order, empty repeats (`occurrences = 0`) at any position, any bit patterns — whatever the
two float conversions return: the closed histogram's occurrences add up to the number of observations
the list stands for (`Repeated{_, n}` counts `n`), provided that number is below `2^64`. In particular
an empty repeat costs nothing and hides nothing that follows it. -/
theorem c11_add_value_conserved (ops : CaptureOps) (calls : List (List Obs))
    (h : (calls.flatten.map Obs.count).sum < 2 ^ 64) :
    ((drainMid aggParams (addValues ops aggParams (emptyBuckets aggCfg) calls)).map (·.2)).sum
      = (calls.flatten.map Obs.count).sum := by
  rw [addValues_eq, ← countSum_flatMap_captureAll ops calls]
  exact (c11_count_conserved _ (by rw [countSum_flatMap_captureAll]; exact h)).1

/-- **Sort-and-merge over `add_value` calls**: as `c11_sort_merge`, for observation lists: the rows are
strictly ascending, NaN-free, positive, and for every non-NaN value the reported occurrences are the
sum of the counts of all captured observations of that value, in every call and at every position. -/
theorem c11_add_value_sort_merge (ops : CaptureOps) (calls : List (List Obs)) :
    (samDrain (samAddValues ops [] calls)).Pairwise (fun a b => samLt a.1 b.1) ∧
      (∀ r ∈ samDrain (samAddValues ops [] calls), f64IsNaN r.1 = false ∧ 0 < r.2) ∧
      (∀ x : Int, rowsCount (some x) (samDrain (samAddValues ops [] calls)) =
        (((calls.flatMap (captureAll ops)).filter fun r => samKey r.1 == some x).map (·.2)).sum) := by
  rw [samAddValues_eq]
  exact c11_sort_merge _

/-- a single call: the capturer's loop records exactly the captured observations in order
(`addValue` is the fold of the one-observation step) -/
theorem c11_add_value_is_fold (ops : CaptureOps) (bs : List Nat) (obs : List Obs) :
    addValue ops aggParams bs obs = recordAll aggParams bs (captureAll ops obs) :=
  addValue_eq ops aggParams bs obs

/-! ## Non-vacuity: concrete inputs meeting the hypotheses -/

-- bucket of the scaled value 1000 (0.9765625): index 111, range 992..1023, midpoint 1007
example : aggCfg.valueToIndex 1000 = some 111 ∧ aggCfg.lowerBound 111 = 992 ∧ aggCfg.upperBound 111 = 1023 ∧
    aggCfg.midpoint 111 = 1007 := by decide +kernel

-- the last bucket ends at u64::MAX and contains its own midpoint
example : aggCfg.upperBound 975 = 2 ^ 64 - 1 ∧ aggCfg.valueToIndex (aggCfg.midpoint 975) = some 975 := by
  decide +kernel

-- 1.5 = 0x3ff8000000000000 scales to 1536; 5 observations of it and 2 of 0.001 (scaled 1) are conserved
example : scaleFloorPow scaleShift 0x3ff8000000000000 = 1536 ∧
    drainMid aggParams (recordAll aggParams (emptyBuckets aggCfg)
      [(0x3ff8000000000000, 5), (0x3f50624dd2f1a9fc, 2)]) = [(1, 2), (1567, 5)] := by decide +kernel

-- an interleaving: two recorders and a drain that overlaps them; bucket 3 received 7 units: 4 in the
-- drain's snapshot, 3 still in the shared array
example : credit (AState.run ⟨emptyBuckets aggCfg, []⟩
      [.add 3 4, .start, .swap 0, .swap 0, .swap 0, .swap 0, .add 3 3, .swap 0]) 3 = 7 ∧
    addsTo 3 [.add 3 4, .start, .swap 0, .swap 0, .swap 0, .swap 0, .add 3 3, .swap 0] = 7 := by
  decide +kernel

-- sort-and-merge: the order puts -0.0 = +0.0 < 1.0 < 2.0 < NaN, and the merge loop turns the sorted,
-- NaN-free list -0.0, +0.0, 1.0, 2.0, 2.0 into (-0.0, 2), (1.0, 1), (2.0, 2)
example : samLt 0 0x3ff0000000000000 ∧ samLt 0x3ff0000000000000 0x4000000000000000 ∧
    samLe 0x4000000000000000 0x7ff8000000000000 = true ∧ samKey 0x8000000000000000 = samKey 0 ∧
    groupRuns [0x8000000000000000, 0, 0x3ff0000000000000, 0x4000000000000000, 0x4000000000000000]
      = [(0x8000000000000000, 2), (0x3ff0000000000000, 1), (0x4000000000000000, 2)] := by
  refine ⟨⟨by decide +kernel, by decide +kernel⟩, ⟨by decide +kernel, by decide +kernel⟩, by decide +kernel,
    by decide +kernel, by decide +kernel⟩

-- one `add_value` call writing [Unsigned 5, Repeated{0, 0}, Unsigned 7, Repeated{_, 3}] (conversions
-- stubbed: `5 as f64` ↦ bits of 5.0 …): the real loop conserves all 5 observations; the early-return
-- variant (an empty repeat `return`s instead of being skipped) keeps only the first one
example :
    let ops : CaptureOps := ⟨fun v => if v = 5 then 0x4014000000000000 else 0x401c000000000000, fun _ _ => 0x3ff0000000000000⟩
    let call : List Obs := [.unsigned 5, .repeated 0 0, .unsigned 7, .repeated 0x4008000000000000 3]
    ((drainMid aggParams (addValue ops aggParams (emptyBuckets aggCfg) call)).map (·.2)).sum = 5 ∧
    (call.map Obs.count).sum = 5 ∧
    ((drainMid aggParams (addValueEarlyReturn ops aggParams (emptyBuckets aggCfg) call)).map (·.2)).sum = 1 := by
  decide +kernel

end Histogram

#print axioms Histogram.c11_generated_constants
#print axioms Histogram.c11_bucket_counts
#print axioms Histogram.c11_bucket_bounds
#print axioms Histogram.c11_bucket_bounds_metricsrs
#print axioms Histogram.c11_bucket_unique
#print axioms Histogram.c11_rel_error
#print axioms Histogram.c11_abs_error_small
#print axioms Histogram.c11_scale_exact
#print axioms Histogram.c11_count_conserved
#print axioms Histogram.c11_concurrent_conserved
#print axioms Histogram.c11_atomic_same
#print axioms Histogram.c11_midpoint_index
#print axioms Histogram.c11_reaggregate_fixed
#print axioms Histogram.c11_sort_merge
#print axioms Histogram.c11_add_value_conserved
#print axioms Histogram.c11_add_value_sort_merge
#print axioms Histogram.c11_add_value_is_fold
