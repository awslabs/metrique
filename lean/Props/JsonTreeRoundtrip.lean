import Model.JsonTree
/-!
The reader reads back what the printer prints: `read (print v) = some v` for every tree whose number
tokens are JSON numbers (`WF`). Strings and keys are arbitrary byte lists.
-/
namespace JsonTree
open Json

theorem hexVal_hexDigit : ∀ n < 16, hexVal (hexDigit n) = some n := by decide

/-- the three shapes of `escByte c`: the byte itself, a two-byte escape `\e` that `unescChar` undoes, or
`\u00XX` for a control byte -/
theorem escByte_cases (c : Nat) :
    (32 ≤ c ∧ c ≠ 34 ∧ c ≠ 92 ∧ escByte c = [c]) ∨
    (∃ e, escByte c = [92, e] ∧ unescChar e = some c) ∨
    (c < 32 ∧ escByte c = [92, 117, 48, 48, hexDigit (c / 16), hexDigit (c % 16)]) := by
  by_cases h : c = 34 ∨ c = 92 ∨ c = 8 ∨ c = 12 ∨ c = 10 ∨ c = 13 ∨ c = 9
  · rcases h with rfl | rfl | rfl | rfl | rfl | rfl | rfl <;> exact .inr (.inl ⟨_, rfl, rfl⟩)
  · simp only [not_or] at h
    obtain ⟨h1, h2, h3, h4, h5, h6, h7⟩ := h
    have e : escByte c = if c < 32 then [92, 117, 48, 48, hexDigit (c / 16), hexDigit (c % 16)] else [c] := by
      simp only [escByte, h1, h2, h3, h4, h5, h6, h7, if_false]
    by_cases h8 : c < 32
    · exact .inr (.inr ⟨h8, by rw [e, if_pos h8]⟩)
    · exact .inl ⟨by omega, h1, h2, by rw [e, if_neg h8]⟩

theorem readStr_escByte (c : Nat) (tail acc : List Nat) :
    readStr .norm (escByte c ++ tail) acc = readStr .norm tail (c :: acc) := by
  rcases escByte_cases c with ⟨h1, h2, h3, h⟩ | ⟨e, h, he⟩ | ⟨hc, h⟩ <;> rw [h]
  · simp [readStr, h2, h3, Nat.not_lt.mpr h1]
  · simp [readStr, he]
  · have hu : utf8 (c / 16 * 16 + c % 16) = some [c] := by
      rw [show c / 16 * 16 + c % 16 = c by omega]; simp [utf8]; omega
    simp [readStr, unescChar, hexVal_hexDigit (c / 16) (by omega), hexVal_hexDigit (c % 16) (by omega), hu,
      show hexVal 48 = some 0 by decide]

theorem readStr_escape (s tail acc : List Nat) :
    readStr .norm (escape s ++ 34 :: tail) acc = some (acc.reverse ++ s, tail) := by
  induction s generalizing acc with
  | nil => simp [escape, readStr]
  | cons c s ih =>
    have : escape (c :: s) = escByte c ++ escape s := by simp [escape]
    rw [this, List.append_assoc, readStr_escByte, ih]
    simp

theorem readStr_jstr (s tail : List Nat) :
    readStr .norm (escape s ++ 34 :: tail) [] = some (s, tail) := by
  rw [readStr_escape]; simp

theorem numStep_numChar {s s' : NumSt} {c : Nat} (h : numStep s c = some s') : isNumChar c = true := by
  cases hc : isNumChar c with
  | true => rfl
  | false =>
    simp only [isNumChar, Bool.or_eq_false_iff, decide_eq_false_iff_not] at hc
    obtain ⟨⟨⟨⟨⟨hd, h1⟩, h2⟩, h3⟩, h4⟩, h5⟩ := hc
    have h48 : c ≠ 48 := by rintro rfl; exact absurd hd (by decide)
    cases s <;> simp [numStep, hd, h1, h2, h3, h4, h5, h48] at h

theorem numRun_numChar {s s' : NumSt} {cs : List Nat} (h : numRun s cs = some s') : ∀ c ∈ cs, isNumChar c = true := by
  induction cs generalizing s with
  | nil => simp
  | cons c cs ih =>
    simp only [numRun] at h
    cases hs : numStep s c with
    | none => simp [hs] at h
    | some s1 =>
      simp only [hs] at h
      intro x hx
      rcases List.mem_cons.mp hx with rfl | hx
      · exact numStep_numChar hs
      · exact ih h x hx

/-- the first byte of a number is `-` or a digit -/
def numHead (c : Nat) : Bool := c = 45 || isDigit c

theorem numStart_head {c : Nat} {s : NumSt} (h : numStart c = some s) : numHead c = true := by
  cases hc : numHead c with
  | true => rfl
  | false =>
    simp only [numHead, Bool.or_eq_false_iff, decide_eq_false_iff_not] at hc
    have h48 : c ≠ 48 := by rintro rfl; exact absurd hc.2 (by decide)
    simp [numStart, hc.1, hc.2, h48] at h

theorem numHead_numChar {c : Nat} (h : numHead c = true) : isNumChar c = true := by
  simp only [numHead, Bool.or_eq_true, decide_eq_true_eq] at h
  rcases h with h | h <;> simp [isNumChar, h]

theorem isNumber_spec {tok : List Nat} (h : isNumber tok = true) :
    ∃ c t, tok = c :: t ∧ numHead c = true ∧ ∀ x ∈ tok, isNumChar x = true := by
  cases tok with
  | nil => simp [isNumber] at h
  | cons c t =>
    simp only [isNumber] at h
    cases hs : numStart c with
    | none => simp [hs] at h
    | some s0 =>
      cases hr : numRun s0 t with
      | none => simp [hs, hr] at h
      | some s1 =>
        have hh := numStart_head hs
        exact ⟨c, t, rfl, hh, fun x hx =>
          (List.mem_cons.mp hx).elim (fun e => e ▸ numHead_numChar hh) (numRun_numChar hr x)⟩

/-- `rest` does not continue a number -/
def NoNum (rest : List Nat) : Prop := ∀ c r, rest = c :: r → isNumChar c = false

theorem spanNum_append (tok rest : List Nat) (ht : ∀ x ∈ tok, isNumChar x = true) (hr : NoNum rest) :
    spanNum (tok ++ rest) = (tok, rest) := by
  induction tok with
  | nil =>
    cases rest with
    | nil => rfl
    | cons c r => simp [spanNum, hr c r rfl]
  | cons c t ih =>
    have hc := ht c List.mem_cons_self
    have := ih (fun x hx => ht x (List.mem_cons_of_mem _ hx))
    simp [spanNum, hc, this]

mutual
/-- every number token is a JSON number -/
def WF : JVal → Prop
  | .num tok => isNumber tok = true
  | .arr xs => WFL xs
  | .obj ms => WFM ms
  | _ => True
def WFL : List JVal → Prop
  | [] => True
  | x :: xs => WF x ∧ WFL xs
def WFM : List (List Nat × JVal) → Prop
  | [] => True
  | (_, x) :: ms => WF x ∧ WFM ms
end

mutual
def size : JVal → Nat
  | .arr xs => 1 + sizeL xs
  | .obj ms => 1 + sizeM ms
  | _ => 1
def sizeL : List JVal → Nat
  | [] => 0
  | x :: xs => 1 + size x + sizeL xs
def sizeM : List (List Nat × JVal) → Nat
  | [] => 0
  | (_, x) :: ms => 1 + size x + sizeM ms
end

theorem print_head (v : JVal) (h : WF v) : ∃ c t, print v = c :: t ∧ c ≠ 93 ∧ c ≠ 125 := by
  cases v with
  | null => exact ⟨_, _, rfl, by decide, by decide⟩
  | bool b => cases b <;> exact ⟨_, _, rfl, by decide, by decide⟩
  | num tok =>
    obtain ⟨c, t, e, hh, _⟩ := isNumber_spec h
    refine ⟨c, t, by simp [print, e], ?_, ?_⟩ <;>
      (intro hc; subst hc; revert hh; decide)
  | str s => exact ⟨34, _, rfl, by decide, by decide⟩
  | arr xs => exact ⟨91, _, rfl, by decide, by decide⟩
  | obj ms => exact ⟨123, _, rfl, by decide, by decide⟩

theorem noNum_cons {c : Nat} {r : List Nat} (h : isNumChar c = false) : NoNum (c :: r) := by
  intro c' r' e
  cases e; exact h

theorem dropLit_append (lit rest : List Nat) : dropLit lit (lit ++ rest) = some rest := by
  induction lit with
  | nil => rfl
  | cons l ls ih => simp [dropLit, ih]

theorem printElems_head (x : JVal) (xs : List JVal) (h : WF x) :
    ∃ d t, printElems (x :: xs) = d :: t ∧ d ≠ 93 := by
  obtain ⟨c, t, e, h1, _⟩ := print_head x h
  cases xs with
  | nil => exact ⟨c, t, by simp [printElems, e], h1⟩
  | cons y r => exact ⟨c, t ++ 44 :: printElems (y :: r), by simp [printElems, e], h1⟩

mutual
theorem readVal_print : ∀ (v : JVal) (fuel : Nat) (rest : List Nat), WF v → size v ≤ fuel → NoNum rest →
    readVal fuel (print v ++ rest) = some (v, rest)
  | v, 0, _, _, hf, _ => absurd hf (by cases v <;> simp [size])
  | .null, _ + 1, _, _, _, _ => rfl
  | .bool true, _ + 1, _, _, _, _ => rfl
  | .bool false, _ + 1, _, _, _, _ => rfl
  | .num tok, f + 1, rest, hw, hf, hn => by
    have hnum : isNumber tok = true := hw
    obtain ⟨c, t, e, hh, hall⟩ := isNumber_spec hnum
    have hc : c = 45 ∨ (48 ≤ c ∧ c ≤ 57) := by simpa [numHead, isDigit] using hh
    have hsp := spanNum_append tok rest hall hn
    subst e
    simp only [print, List.cons_append] at hsp ⊢
    have h : c ≠ 34 ∧ c ≠ 91 ∧ c ≠ 123 ∧ c ≠ 116 ∧ c ≠ 102 ∧ c ≠ 110 := by omega
    simp only [readVal, h, if_false, hsp, hnum, if_true]
  | .str s, f + 1, rest, _, hf, _ => by
    have : print (.str s) ++ rest = 34 :: (escape s ++ 34 :: rest) := by simp [print, jstr]
    rw [this]
    simp only [readVal, if_true, readStr_jstr]
  | .arr [], _ + 1, _, _, _, _ => rfl
  | .arr (x :: xs), f + 1, rest, hw, hf, hn => by
    obtain ⟨d, t, e, hd⟩ := printElems_head x xs hw.1
    have hs : sizeL (x :: xs) ≤ f := by simp only [size] at hf; omega
    have := readElems_print (x :: xs) f rest [] (by simp) hw hs
    have e2 : print (.arr (x :: xs)) ++ rest = 91 :: (d :: (t ++ 93 :: rest)) := by
      simp [print, e]
    rw [e, List.cons_append] at this
    rw [e2]
    simp only [readVal, show ¬ (91 : Nat) = 34 by decide, if_false, if_true, hd]
    simpa using this
  | .obj [], _ + 1, _, _, _, _ => rfl
  | .obj ((k, x) :: ms), f + 1, rest, hw, hf, hn => by
    have hs : sizeM ((k, x) :: ms) ≤ f := by simp only [size] at hf; omega
    have := readMembers_print ((k, x) :: ms) f rest [] (by simp) hw hs
    have e : ∃ t, printMembers ((k, x) :: ms) = 34 :: t := by
      cases ms with
      | nil => exact ⟨escape k ++ 34 :: 58 :: print x, by simp [printMembers, jstr]⟩
      | cons m r =>
        exact ⟨escape k ++ 34 :: 58 :: (print x ++ 44 :: printMembers (m :: r)), by simp [printMembers, jstr]⟩
    obtain ⟨t, e⟩ := e
    have e2 : print (.obj ((k, x) :: ms)) ++ rest = 123 :: (34 :: (t ++ 125 :: rest)) := by
      simp [print, e]
    rw [e, List.cons_append] at this
    rw [e2]
    simp only [readVal, show ¬ (123 : Nat) = 34 by decide, show ¬ (123 : Nat) = 91 by decide,
      show ¬ (34 : Nat) = 125 by decide, if_false, if_true]
    simpa using this
theorem readElems_print : ∀ (xs : List JVal) (fuel : Nat) (rest : List Nat) (acc : List JVal), xs ≠ [] → WFL xs →
    sizeL xs ≤ fuel →
    readElems fuel (printElems xs ++ 93 :: rest) acc = some (.arr (acc.reverse ++ xs), rest)
  | [], _, _, _, h, _, _ => absurd rfl h
  | _ :: _, 0, _, _, _, _, hf => by simp [sizeL] at hf
  | [x], f + 1, rest, acc, _, hw, hf => by
    have hx : size x ≤ f := by simp only [sizeL] at hf; omega
    have := readVal_print x f (93 :: rest) hw.1 hx (noNum_cons (by decide))
    simp only [printElems, readElems, this]
    simp
  | x :: y :: r, f + 1, rest, acc, _, hw, hf => by
    have hx : size x ≤ f := by simp only [sizeL] at hf ⊢; omega
    have hr : sizeL (y :: r) ≤ f := by simp only [sizeL] at hf ⊢; omega
    have h1 := readVal_print x f (44 :: (printElems (y :: r) ++ 93 :: rest)) hw.1 hx (noNum_cons (by decide))
    have h2 := readElems_print (y :: r) f rest (x :: acc) (by simp) hw.2 hr
    have e : printElems (x :: y :: r) ++ 93 :: rest = print x ++ 44 :: (printElems (y :: r) ++ 93 :: rest) := by
      simp [printElems]
    rw [e]
    simp only [readElems, h1, if_true, h2]
    simp
theorem readMembers_print : ∀ (ms : List (List Nat × JVal)) (fuel : Nat) (rest : List Nat)
    (acc : List (List Nat × JVal)), ms ≠ [] → WFM ms → sizeM ms ≤ fuel →
    readMembers fuel (printMembers ms ++ 125 :: rest) acc = some (.obj (acc.reverse ++ ms), rest)
  | [], _, _, _, h, _, _ => absurd rfl h
  | _ :: _, 0, _, _, _, _, hf => by simp [sizeM] at hf
  | [(k, x)], f + 1, rest, acc, _, hw, hf => by
    have hx : size x ≤ f := by simp only [sizeM] at hf; omega
    have h1 := readVal_print x f (125 :: rest) hw.1 hx (noNum_cons (by decide))
    have e : printMembers [(k, x)] ++ 125 :: rest = 34 :: (escape k ++ 34 :: (58 :: (print x ++ 125 :: rest))) := by
      simp [printMembers, jstr]
    rw [e]
    simp only [readMembers, if_true, readStr_jstr, h1]
    simp
  | (k, x) :: m :: r, f + 1, rest, acc, _, hw, hf => by
    have hx : size x ≤ f := by simp only [sizeM] at hf ⊢; omega
    have hr : sizeM (m :: r) ≤ f := by simp only [sizeM] at hf ⊢; omega
    have h1 := readVal_print x f (44 :: (printMembers (m :: r) ++ 125 :: rest)) hw.1 hx (noNum_cons (by decide))
    have h2 := readMembers_print (m :: r) f rest ((k, x) :: acc) (by simp) hw.2 hr
    have e : printMembers ((k, x) :: m :: r) ++ 125 :: rest =
        34 :: (escape k ++ 34 :: (58 :: (print x ++ 44 :: (printMembers (m :: r) ++ 125 :: rest)))) := by
      simp [printMembers, jstr]
    rw [e]
    simp only [readMembers, if_true, readStr_jstr, h1, h2]
    simp
end


mutual
theorem size_le_print : ∀ (v : JVal), WF v → size v ≤ (print v).length
  | .null, _ => by decide
  | .bool true, _ => by decide
  | .bool false, _ => by decide
  | .num tok, hw => by
    obtain ⟨c, t, e, _, _⟩ := isNumber_spec hw
    simp [size, print, e]
  | .str s, _ => by simp [size, print, jstr]
  | .arr xs, hw => by
    have := sizeL_le_print xs hw
    simp only [size, print, List.length_cons, List.length_append, List.length_nil]
    omega
  | .obj ms, hw => by
    have := sizeM_le_print ms hw
    simp only [size, print, List.length_cons, List.length_append, List.length_nil]
    omega
theorem sizeL_le_print : ∀ (xs : List JVal), WFL xs → sizeL xs ≤ (printElems xs).length + 1
  | [], _ => by simp [sizeL]
  | [x], hw => by
    have := size_le_print x hw.1
    simp only [sizeL, printElems]; omega
  | x :: y :: r, hw => by
    have h1 := size_le_print x hw.1
    have h2 := sizeL_le_print (y :: r) hw.2
    simp only [sizeL, printElems, List.length_append, List.length_cons] at h2 ⊢
    omega
theorem sizeM_le_print : ∀ (ms : List (List Nat × JVal)), WFM ms → sizeM ms ≤ (printMembers ms).length + 1
  | [], _ => by simp [sizeM]
  | [(k, x)], hw => by
    have := size_le_print x hw.1
    simp only [sizeM, printMembers, List.length_append, List.length_cons]; omega
  | (k, x) :: m :: r, hw => by
    have h1 := size_le_print x hw.1
    have h2 := sizeM_le_print (m :: r) hw.2
    simp only [sizeM, printMembers, List.length_append, List.length_cons] at h2 ⊢
    omega
end

/-- **the reader inverts the printer** on every tree whose number tokens are JSON numbers -/
theorem read_print (v : JVal) (h : WF v) : read (print v) = some v := by
  have := readVal_print v ((print v).length + 1) [] h (by have := size_le_print v h; omega)
    (by intro c r e; cases e)
  simp only [List.append_nil] at this
  simp [read, this]

theorem readLine_print (v : JVal) (h : WF v) : readLine (print v ++ [10]) = some v := by
  simp [readLine, read_print v h]

end JsonTree

#print axioms JsonTree.read_print
#print axioms JsonTree.readLine_print
