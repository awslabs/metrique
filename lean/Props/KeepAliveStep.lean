import Model.KeepAliveX
/-!
`KeepAlive.step` (and `stepX`) as a relation: `Step s e s'` has one constructor per event and branch of `step`, with the
conditions of that branch as they are written there and the successor state.  Proofs that invert a transition use
`step_cases` and never unfold `step`; only enabledness proofs, which go the other way, evaluate it.  `relG` and `dropFG`
stay folded (`relG_eq`).
-/
namespace KeepAlive

theorem relG_eq (k : Kind) (s : St) :
    relG k s = if s.gS ≤ 1 then { s with gS := 0, iPc := .pending, iBy := k }
      else { s with gS := s.gS - 1, dgDone := if k = .dg then s.dgDone + 1 else s.dgDone } := by
  unfold relG; congr 1; apply propext; omega

theorem ownerUsable_iff {s : St} : ownerUsable s = true ↔ s.hS > 0 ∧ s.isHandle = false ∧ s.borrowed = none := by
  simp [ownerUsable, and_assoc]

inductive Step (s : St) : Ev → St → Prop
  | newFG : ownerUsable s = true → Step s .newFG { s with gS := s.gS + 1, fgLive := s.fgLive + 1 }
  | newDG : ownerUsable s = true → Step s .newDG { s with dgLive := s.dgLive + 1 }
  | mutate (v : Nat) : ownerUsable s = true → Step s (.mutate v) { s with plain := v }
  | hit (v : Nat) : s.hS > 0 ∧ s.borrowed.isNone = true → Step s (.hit v) { s with hits := v }
  | toHandle : ownerUsable s = true → Step s .toHandle { s with isHandle := true }
  | cloneHandle : s.hS > 0 ∧ s.isHandle = true → Step s .cloneHandle { s with hS := s.hS + 1 }
  | refDropLast : s.hS > 0 ∧ s.borrowed.isNone = true → s.hS = 1 →
      Step s .refDrop { s with hS := 0, pPc := .decV, atDrop := some (s.plain, s.hits) }
  | refDrop : s.hS > 0 ∧ s.borrowed.isNone = true → ¬s.hS = 1 → Step s .refDrop { s with hS := s.hS - 1 }
  | openAgainWait (i : Nat) (m : Mode) (v0 : Nat) (sl : Slot) : s.slots[i]? = some sl →
      ownerUsable s = true ∧ (m = .wait → held s.slots < s.fgLive) → sl.opened = true → m = .wait →
      Step s (.open i m v0) (dropFG s)
  | openAgain (i : Nat) (m : Mode) (v0 : Nat) (sl : Slot) : s.slots[i]? = some sl →
      ownerUsable s = true ∧ (m = .wait → held s.slots < s.fgLive) → sl.opened = true → ¬m = .wait →
      Step s (.open i m v0) s
  | open (i : Nat) (m : Mode) (v0 : Nat) (sl : Slot) : s.slots[i]? = some sl →
      ownerUsable s = true ∧ (m = .wait → held s.slots < s.fgLive) → ¬sl.opened = true →
      Step s (.open i m v0) (setSlot s i fun sl => { sl with opened := true, g := .live, mode := m,
                                                             gval := if sl.lazy then v0 else sl.init })
  | waitBegin (i : Nat) (sl : Slot) : s.slots[i]? = some sl → ownerUsable s = true ∧ sl.lazy = false →
      Step s (.waitBegin i)
        { setSlot s i (fun _ => (poll sl).1) with borrowed := if (poll sl).2 then none else some i }
  | waitPoll (i : Nat) (sl : Slot) : s.borrowed = some i → s.slots[i]? = some sl →
      Step s .waitPoll { setSlot s i (fun _ => (poll sl).1) with borrowed := if (poll sl).2 then none else some i }
  | waitCancel : s.borrowed.isSome = true → Step s .waitCancel { s with borrowed := none }
  | fgDrop : held s.slots < s.fgLive → Step s .fgDrop (dropFG s)
  | delayAgain (i : Nat) (sl : Slot) : s.slots[i]? = some sl → sl.g = .live ∧ held s.slots < s.fgLive →
      sl.mode = .wait → Step s (.delay i) (dropFG s)
  | delay (i : Nat) (sl : Slot) : s.slots[i]? = some sl → sl.g = .live ∧ held s.slots < s.fgLive →
      ¬sl.mode = .wait → Step s (.delay i) (setSlot s i fun sl => { sl with mode := .wait })
  | gmut (i v : Nat) (sl : Slot) : s.slots[i]? = some sl → sl.g = .live →
      Step s (.gmut i v) (setSlot s i fun sl => { sl with gval := v })
  | gSend (i : Nat) (sl : Slot) : s.slots[i]? = some sl → sl.g = .live →
      Step s (.gSend i) (setSlot s i fun sl => { sl with g := .sent, cell := if sl.rx then some sl.gval else none,
                                                         sentOk := sl.closedAs.isNone })
  | gReleaseWait (i : Nat) (sl : Slot) : s.slots[i]? = some sl → sl.g = .sent → sl.mode = .wait →
      Step s (.gRelease i) (dropFG (setSlot s i fun sl => { sl with g := .none }))
  | gRelease (i : Nat) (sl : Slot) : s.slots[i]? = some sl → sl.g = .sent → ¬sl.mode = .wait →
      Step s (.gRelease i) (setSlot s i fun sl => { sl with g := .none })
  | dgBeginDead : s.dgLive > 0 → s.gS = 0 →
      Step s .dgBegin { s with dgLive := s.dgLive - 1, dgBegun := s.dgBegun + 1, dgDone := s.dgDone + 1 }
  | dgBegin : s.dgLive > 0 → ¬s.gS = 0 →
      Step s .dgBegin { s with dgLive := s.dgLive - 1, dgBegun := s.dgBegun + 1, gS := s.gS + 1, nUp := s.nUp + 1 }
  | dgLockTake : s.nUp > 0 ∧ s.lock = false → s.closure = true →
      Step s .dgLock { s with nUp := s.nUp - 1, lock := true, closure := false, lPc := .run }
  | dgLock : s.nUp > 0 ∧ s.lock = false → ¬s.closure = true →
      Step s .dgLock { s with nUp := s.nUp - 1, lock := true, lPc := .unlock }
  | lRun : s.lPc = .run → Step s .lRun { s with vS := s.vS - 1, lPc := if s.vS - 1 = 0 then .app else .unlock }
  | lUnlock : s.lPc = .unlock → Step s .lUnlock { s with lock := false, lPc := .free, nDec := s.nDec + 1 }
  | dgDec : s.nDec > 0 → Step s .dgDec (relG .dg { s with nDec := s.nDec - 1 })
  | pDecV : s.pPc = .decV → Step s .pDecV { s with vS := s.vS - 1, pPc := if s.vS - 1 = 0 then .app else .decG }
  | pDecG : s.pPc = .decG → Step s .pDecG (relG .parent { s with pPc := .done })
  | innerDropLast : s.iPc = .pending → s.closure = true → s.vS - 1 = 0 →
      Step s .innerDrop { s with closure := false, vS := 0, iPc := .app }
  | innerDropMore : s.iPc = .pending → s.closure = true → ¬s.vS - 1 = 0 →
      Step s .innerDrop (finishInner { s with closure := false, vS := s.vS - 1 })
  | innerDrop : s.iPc = .pending → ¬s.closure = true → Step s .innerDrop (finishInner s)
  | closeSlot (l : List Slot) : anyApp s = true → closeFirst s.slots = some l → Step s .closeSlot { s with slots := l }
  | emit : anyApp s = true ∧ allClosed s.slots = true →
      Step s .emit { s with
        appended := s.appended ++ [⟨s.plain, s.hits, closedVals s.slots⟩]
        pPc := if s.pPc = .app then .decG else s.pPc
        lPc := if s.lPc = .app then .unlock else s.lPc
        iPc := if s.iPc = .app then .done else s.iPc
        dgDone := if s.iPc = .app ∧ s.iBy = .dg then s.dgDone + 1 else s.dgDone }

variable {s s' : St} {e : Ev}

theorem step_cases (h : step s e = some s') : Step s e s' := by
  cases e
  case emit =>
    simp only [step, Option.ite_none_right_eq_some, Option.some.injEq] at h
    obtain ⟨hg, rfl⟩ := h
    refine cast (congrArg (Step s .emit) ?_) (Step.emit hg)
    by_cases hp : s.pPc = .app <;> by_cases hl : s.lPc = .app <;> by_cases hi : s.iPc = .app <;>
      simp only [hp, hl, hi, if_true, if_false, finishInner, true_and, false_and]
  case newFG | newDG | mutate | hit | toHandle | cloneHandle | waitCancel | fgDrop | lRun | lUnlock | dgDec | pDecV
      | pDecG =>
    simp only [step, Option.ite_none_right_eq_some, Option.some.injEq] at h
    obtain ⟨hg, rfl⟩ := h; constructor; exact hg
  case waitBegin i =>
    simp only [step] at h
    split at h
    · cases h
    · simp only [Option.ite_none_right_eq_some, Option.some.injEq] at h
      obtain ⟨hg, rfl⟩ := h; exact .waitBegin i _ ‹_› hg
  case waitPoll =>
    simp only [step] at h
    split at h
    · cases h
    · split at h <;> cases h
      exact .waitPoll _ _ ‹_› ‹_›
  all_goals
    simp only [step] at h
    (repeat' split at h) <;> cases h <;> constructor <;> assumption

inductive StepX (x : StX) : EvX → StX → Prop
  | base (e : Ev) (b' : St) : (needsFree e = true → freeFG x = true) → step x.b e = some b' →
      StepX x (.base e) { x with b := b' }
  | gSendFail (i : Nat) (sl : Slot) : x.b.slots[i]? = some sl → sl.g = .live →
      StepX x (.gSendFail i) { x with b := setSlot x.b i fun sl => { sl with g := .sent, sentOk := false, failed := true } }
  | slotReplace (i v : Nat) (sl : Slot) : x.b.slots[i]? = some sl → ownerUsable x.b = true →
      StepX x (.slotReplace i v)
        { b := setSlot x.b i fun sl => { lazy := sl.lazy, init := v },
          orph := x.orph ++ (if sl.g = .none then [] else [{ g := sl.g, mode := sl.mode, gval := sl.gval }]) }
  | oDelayAgain (j : Nat) (o : OGuard) : x.orph[j]? = some o → o.g = .live ∧ freeFG x = true → o.mode = .wait →
      StepX x (.oDelay j) { x with b := dropFG x.b }
  | oDelay (j : Nat) (o : OGuard) : x.orph[j]? = some o → o.g = .live ∧ freeFG x = true → ¬o.mode = .wait →
      StepX x (.oDelay j) { x with orph := modifyAt (fun o => { o with mode := .wait }) x.orph j }
  | oGmut (j v : Nat) (o : OGuard) : x.orph[j]? = some o → o.g = .live →
      StepX x (.oGmut j v) { x with orph := modifyAt (fun o => { o with gval := v }) x.orph j }
  | oSend (j : Nat) (o : OGuard) : x.orph[j]? = some o → o.g = .live →
      StepX x (.oSend j) { x with orph := modifyAt (fun o => { o with g := .sent }) x.orph j }
  | oSendFail (j : Nat) (o : OGuard) : x.orph[j]? = some o → o.g = .live →
      StepX x (.oSendFail j) { x with orph := modifyAt (fun o => { o with g := .sent }) x.orph j }
  | oReleaseWait (j : Nat) (o : OGuard) : x.orph[j]? = some o → o.g = .sent → o.mode = .wait →
      StepX x (.oRelease j) { b := dropFG x.b, orph := x.orph.eraseIdx j }
  | oRelease (j : Nat) (o : OGuard) : x.orph[j]? = some o → o.g = .sent → ¬o.mode = .wait →
      StepX x (.oRelease j) { x with orph := x.orph.eraseIdx j }

theorem stepX_cases {x x' : StX} {e : EvX} (h : stepX x e = some x') : StepX x e x' := by
  cases e
  case base e =>
    simp only [stepX] at h
    split at h
    · cases h
    · cases hs : step x.b e with
      | none => simp [hs] at h
      | some b' => simp only [hs, Option.map_some, Option.some.injEq] at h; subst h; exact .base e b' (by rename_i hn; simpa using hn) hs
  case slotReplace i v =>
    simp only [stepX] at h
    split at h
    · cases h
    · simp only [Option.ite_none_right_eq_some, Option.some.injEq] at h
      obtain ⟨hu, rfl⟩ := h; exact .slotReplace i v _ ‹_› hu
  all_goals
    simp only [stepX] at h
    (repeat' split at h) <;> cases h <;> constructor <;> assumption

theorem run_induction {P : St → Prop} (hP : ∀ {s s' e}, P s → step s e = some s' → P s') {es : List Ev}
    (h0 : P s) (h : run s es = some s') : P s' := by
  induction es generalizing s with
  | nil => cases h; exact h0
  | cons e es ih =>
    simp only [run] at h
    split at h
    · cases h
    · exact ih (hP h0 ‹_›) h

end KeepAlive
