import Props.EmfRefineCorollaries
/-!
Non-vacuity of the Stage 3 theorems: a concrete accepted entry with THREE split records and the
no-dimension record (a fourth dimension set has only a NaN observation and yields no record) meets every
hypothesis, so `emf_refines_spec_split` applies to it; that its lines read back is checked by kernel evaluation.
-/
namespace EmfRefine
open JsonTree Json EmfSpec

/-- split entry: string for the default dimension `D`; `M` in the dimension sets `Az=a`, `Az=b` (high-resolution,
with a float) and `Az=a,B=b` (a `Repeated`), a global counter `G`, and `N` in `Az=c` with only a NaN (no record) -/
def exSplit : Entry FText :=
  [.timestamp 1500000, .allowSplit,
   .value (bytes! "D") (.str (bytes! "x")),
   .value (bytes! "M") (.metric ⟨[.unsigned 1], some (bytes! "Count"), [(bytes! "Az", bytes! "a")], .plain⟩),
   .value (bytes! "M") (.metric ⟨[.unsigned 2, .floating (some (bytes! "2.5"))], none, [(bytes! "Az", bytes! "b")], .hires⟩),
   .value (bytes! "G") (.metric ⟨[.unsigned 7], none, [], .plain⟩),
   .value (bytes! "N") (.metric ⟨[.floating none], none, [(bytes! "Az", bytes! "c")], .plain⟩),
   .value (bytes! "M") (.metric ⟨[.repeated (some (bytes! "0.5")) 4], none, [(bytes! "Az", bytes! "a"), (bytes! "B", bytes! "b")], .plain⟩)]

example : validate exCfg2 allOn exSplit = [] := by decide
example : exCfg2.namespaces ≠ [] := by decide
example : multOk (some 3) := by intro m h; cases h; decide
example : noUnroutable exSplit = true := by decide
example : dimKeysDisjoint exCfg2 exSplit = true := by decide
/-- three split records (`Az=a`, `Az=b`, `Az=a,B=b`) and the no-dimension record; `Az=c` is skipped -/
example : (emit exCfg2 textOps (some 3) exSplit).map (·.route) =
    [some [(bytes! "Az", bytes! "a")], some [(bytes! "Az", bytes! "b")],
     some [(bytes! "Az", bytes! "a"), (bytes! "B", bytes! "b")], none] := by decide
/-- `emf_refines_spec_split` at this entry -/
example : runEmf exCfg2 allOn textOps textTxt (some 3) 0 exSplit =
    (.ok, ((emit exCfg2 textOps (some 3) exSplit).map (lineOf textTxt 2 0)).flatten) :=
  (emf_refines_spec_split exCfg2 allOn textOps textTxt (some 3) 0 exSplit (by decide)
    (by intro m h; cases h; decide) (by decide)).2
/-- and the lines read back, in order -/
example : ((emit exCfg2 textOps (some 3) exSplit).map fun r =>
      (readLine (lineOf textTxt 2 0 r)).map fun t => t == recordJson textTxt 2 0 r) =
    [some true, some true, some true, some true] := by decide +kernel

/-- an extra directive with `Unit::None` and high resolution (serde prints `"Unit":"None"`) -/
def exCfg3 : Config := { exCfg2 with extra := [⟨bytes! "X", [[bytes! "E"]], [⟨bytes! "EM", none, true⟩]⟩] }

example : runEmf exCfg3 allOn textOps textTxt none 7 exSplit =
    (.ok, ((emit exCfg3 textOps none exSplit).map (lineOf textTxt 2 7)).flatten) :=
  (emf_refines_spec_split exCfg3 allOn textOps textTxt none 7 exSplit (by decide) (by intro m h; cases h)
    (by decide)).2

/-! ### the dtoa law is satisfiable: numbers are naturals, printed as `<digits>.0` -/

def natOps : FloatOps Nat where
  zero := 0
  mean := fun t n => t / n
  usable := fun x => some x

def natTxt (n : Nat) : List Nat := natDigits n ++ bytes! ".0"

theorem natTxt_ok : TxtOk natOps natTxt := by
  intro x y _
  have : Emf.stripDotZero (natTxt y) = natDigits y := by
    unfold Emf.stripDotZero natTxt
    simp
  rw [this]
  exact Json.isNumber_natDigits y

def exSplitNat : Entry Nat :=
  [.allowSplit,
   .value (bytes! "D") (.str (bytes! "x")),
   .value (bytes! "M") (.metric ⟨[.floating 5], none, [(bytes! "Az", bytes! "a")], .plain⟩),
   .value (bytes! "M") (.metric ⟨[.repeated 9 2, .unsigned 4], none, [(bytes! "Az", bytes! "b")], .plain⟩)]

example : validate exCfg2 allOn exSplitNat = [] := by decide
example : (emit exCfg2 natOps none exSplitNat).length = 2 := by decide
example : dimKeysDisjoint exCfg2 exSplitNat = true := by decide
example : noUnroutable exSplitNat = true := by decide

end EmfRefine
