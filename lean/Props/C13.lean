import Props.C13XLemmas
/-!
# C13 — slot values are never lost in wait mode and never partial in discard mode

Theorems about the slot part of `KeepAlive.step` (model of `slot.rs`: `Slot`, `LazySlot`, `SlotGuard`,
`OnParentDrop`, `wait_for_data` as begin / poll / cancel, `Slot::close`), for every list of slot fields
(`cfg`: any number, eager or lazy) and every schedule of the micro-steps of all threads (`Reachable`).

Reading: `sl.gval` = the value behind the slot guard as last mutated through it (frozen once the guard's
drop has begun: `gmut` needs a live guard); `sl.closedAs = some r` = the entry's destructor has closed
this field with result `r` (`Slot::close` / `LazySlot::close`); `sl.sentOk` = the guard's `tx.send` came
before that (set by the `gSend` step to "not closed yet"); `s.dgBegun = 0` = no force-flush guard has
begun to drop; the sink receives `closedVals s.slots` (theorem `c13_emitted_slots`).
-/
namespace KeepAlive

variable {cfg : List (Bool × Nat)} {s s' : St}

theorem forall_setSlot {P : Slot → Prop} {i : Nat} {f : Slot → Slot} (hn : ∀ sl ∈ s.slots, P sl)
    (hf : ∀ sl ∈ s.slots, P (f sl)) : ∀ sl ∈ (setSlot s i f).slots, P sl := by
  intro x hx
  rcases mem_modifyAt hx with hx | ⟨a, ha, rfl⟩
  · exact hn x hx
  · exact hf a (List.mem_of_getElem? ha)

theorem failed_step {e : Ev} (h : step s e = some s') (hn : ∀ sl ∈ s.slots, sl.failed = false) :
    ∀ sl ∈ s'.slots, sl.failed = false := by
  cases step_cases h with
  | closeSlot l _ hl => obtain ⟨k, _, -, -, rfl⟩ := closeFirst_eq hl; exact forall_setSlot (i := k) hn hn
  | «open» | delay | gmut | gSend | gRelease => exact forall_setSlot hn hn
  | gReleaseWait => rw [(dropFG_fields _).2.1]; exact forall_setSlot hn hn
  | waitBegin i sl hsl | waitPoll i sl _ hsl =>
    exact forall_setSlot hn fun _ _ => (poll_same sl).2.2.2.2.2.2.trans (hn sl (List.mem_of_getElem? hsl))
  | fgDrop | dgDec | pDecG | openAgainWait | delayAgain => simpa [dropFG] using hn
  | _ => exact hn

theorem sinv_of_sinvX (h : SInvX s) (hn : ∀ sl ∈ s.slots, sl.failed = false) : SInv s where
  ok sl hm :=
    have k := h.ok sl hm
    have f := hn sl hm
    ⟨k.unopened, k.nothing, k.sentg, fun a b => k.rxstays a b f, k.delivered,
      fun a b => (k.gone a b).imp_right fun c => c.resolve_right (by simp [f]), k.closed, k.afterclose⟩
  g0 := h.g0
  g1 sl hm a b c d := h.g1 sl hm a b c d (hn sl hm)

theorem sinv_reachable {s : St} (hr : Reachable cfg s) : SInv s := by
  suffices h : SInvX s ∧ ∀ sl ∈ s.slots, sl.failed = false from sinv_of_sinvX h.1 h.2
  induction hr with
  | init => exact ⟨sinvX_init cfg, fun sl h => by obtain ⟨c, _, rfl⟩ := List.mem_map.mp h; rfl⟩
  | step e hr h ih => exact ⟨sinvX_step (inv_reachable hr) ih.1 h, failed_step h ih.2⟩

/-- **C13 wait mode never loses the value.** In every reachable state, for every slot that has been opened
and whose guard is in wait mode (opened with `OnParentDrop::Wait(flush guard of this entry)` or switched by
`delay_flush`): if the entry's destructor has closed the field and no force-flush guard has begun to
drop, the close result is `Some` of the guard's last value — whichever of parent and guard dropped first and
however their micro-steps interleaved. -/
theorem c13_wait_never_lost (hr : Reachable cfg s) {sl : Slot} (hm : sl ∈ s.slots) {r : Option Nat}
    (hc : sl.closedAs = some r) (ho : sl.opened = true) (hw : sl.mode = .wait) (hd : s.dgBegun = 0) :
    r = some sl.gval := by
  have hs := sinv_reachable hr
  have hsent := hs.g1 sl hm (by simp [hc]) ho hw hd
  have := (hs.ok sl hm).closed r hc
  simpa [hsent] using this

/-- … and such a field is not closed at all while the guard is alive: a live wait-mode guard holds a flush
guard, so (C06) the destructor cannot have started unless a force-flush guard has begun to drop. -/
theorem c13_wait_blocks_close (hr : Reachable cfg s) {sl : Slot} {i : Nat} (hsl : s.slots[i]? = some sl)
    (hg : sl.g ≠ .none) (hw : sl.mode = .wait) (hd : s.dgBegun = 0) :
    anyApp s = false ∧ s.appended = [] ∧ ∀ x ∈ s.slots, x.closedAs = none := by
  have hi := inv_reachable hr
  have hs := sinv_reachable hr
  have h1 := held_pos hsl hg hw
  have h3 := hi.heldle
  have hv : 0 < s.vS := Nat.pos_of_ne_zero fun hv => by have := (vS_zero_cond hi hv).2; omega
  refine ⟨(vS_pos_cond hi hv).1, (vS_pos_cond hi hv).2, fun x hx => ?_⟩
  cases hc : x.closedAs with
  | none => rfl
  | some r => have := (hs.g0 ⟨x, hx, by simp [hc]⟩).2; omega

/-- **C13 discard mode (in fact any mode): present iff sent first.** The close result of a field is `Some`
of the guard's last value exactly when the guard's send preceded the field's close, and `None` otherwise —
never anything else (no partial or stale value). -/
theorem c13_closed_iff_sent (hr : Reachable cfg s) {sl : Slot} (hm : sl ∈ s.slots) {r : Option Nat}
    (hc : sl.closedAs = some r) : r = if sl.sentOk then some sl.gval else none :=
  ((sinv_reachable hr).ok sl hm).closed r hc

/-- what `sentOk` records: the `gSend` step (the `tx.send` in `SlotGuard::drop`) sets it to "this field has
not been closed yet"; … -/
theorem c13_sentOk_set {i : Nat} {sl : Slot} (hsl : s.slots[i]? = some sl) (h : step s (.gSend i) = some s') :
    ∃ sl', s'.slots[i]? = some sl' ∧ sl'.sentOk = sl.closedAs.isNone ∧ sl'.gval = sl.gval := by
  cases step_cases h with | gSend i sl' hsl' =>
  cases hsl.symm.trans hsl'
  simp [setSlot, getElem?_modifyAt, hsl]

/-- … a slot that was never opened, or whose guard is still alive, has not sent (so it closes to `None`). -/
theorem c13_not_sent (hr : Reachable cfg s) {sl : Slot} (hm : sl ∈ s.slots)
    (h : sl.opened = false ∨ sl.g = .live) : sl.sentOk = false := by
  have hok := (sinv_reachable hr).ok sl hm
  cases hso : sl.sentOk with
  | false => rfl
  | true =>
    have := hok.sentg hso
    rcases h with h | h
    · rw [this.2] at h; cases h
    · exact absurd h this.1

theorem opened_step {e : Ev} (h : step s e = some s') {j : Nat} {sl : Slot} (hj : s.slots[j]? = some sl)
    (ho : sl.opened = true) : ∃ sl', s'.slots[j]? = some sl' ∧ sl'.opened = true := by
  have key : ∀ (i : Nat) (f : Slot → Slot), (∀ x, s.slots[i]? = some x → x.opened = true → (f x).opened = true) →
      ∃ sl', (setSlot s i f).slots[j]? = some sl' ∧ sl'.opened = true := by
    intro i f hf
    simp only [setSlot, getElem?_modifyAt]
    split
    · rename_i hij; subst hij; exact ⟨f sl, by simp [hj], hf sl hj ho⟩
    · exact ⟨sl, hj, ho⟩
  cases step_cases h with
  | closeSlot l _ hl => obtain ⟨k, _, -, -, rfl⟩ := closeFirst_eq hl; exact key k closeSlot1 fun _ _ h => h
  | «open» => exact key _ _ fun _ _ _ => rfl
  | delay | gmut | gSend | gRelease => exact key _ _ fun _ _ h => h
  | gReleaseWait => rw [(dropFG_fields _).2.1]; exact key _ _ fun _ _ h => h
  | waitBegin i sl' hsl | waitPoll i sl' _ hsl =>
    exact key _ _ fun x hx h => by cases hsl.symm.trans hx; exact (poll_same _).2.1.trans h
  | fgDrop | dgDec | pDecG | openAgainWait | delayAgain => exact ⟨sl, by simpa [dropFG] using hj, ho⟩
  | _ => exact ⟨sl, hj, ho⟩

/-- **C13 a slot can be opened at most once** (`Slot` and `LazySlot` alike): after a successful `open` of
field `j`, whatever happens next, every further `open` of that field returns `None` — it changes no slot at
all (the rest of the state may change: the flush guard inside a rejected `Wait` argument is dropped). -/
theorem c13_single_open {s1 s2 s3 : St} {j : Nat} {m m' : Mode} {v v' : Nat} {sl : Slot} {es : List Ev}
    (hj : s.slots[j]? = some sl) (hfirst : sl.opened = false)
    (h1 : step s (.open j m v) = some s1) (hrun : run s1 es = some s2)
    (h2 : step s2 (.open j m' v') = some s3) :
    (∃ sl2, s2.slots[j]? = some sl2 ∧ sl2.opened = true) ∧ s3.slots = s2.slots := by
  have ho1 : ∃ sl1, s1.slots[j]? = some sl1 ∧ sl1.opened = true := by
    cases step_cases h1 with
    | openAgainWait _ _ _ sl' hsl' _ ho | openAgain _ _ _ sl' hsl' _ ho =>
      cases hj.symm.trans hsl'; rw [hfirst] at ho; cases ho
    | «open» => simp [setSlot, getElem?_modifyAt, hj]
  obtain ⟨sl2, b1, b2⟩ := run_induction (P := fun t => ∃ sl', t.slots[j]? = some sl' ∧ sl'.opened = true)
    (fun ⟨_, h1, h2⟩ h => opened_step h h1 h2) ho1 hrun
  refine ⟨⟨sl2, b1, b2⟩, ?_⟩
  cases step_cases h2 with
  | openAgainWait => simp [dropFG]
  | openAgain => rfl
  | «open» _ _ _ sl' hsl' _ hno => cases b1.symm.trans hsl'; exact absurd b2 hno

/-- what the sink receives: the `emit` step appends exactly one entry whose slot fields are the close results
of all fields (every field has been closed by then), and touches no slot. -/
theorem c13_emitted_slots (h : step s .emit = some s') :
    s'.appended = s.appended ++ [⟨s.plain, s.hits, closedVals s.slots⟩] ∧ allClosed s.slots = true ∧
      s'.slots = s.slots := by
  cases step_cases h with | emit hg => exact ⟨rfl, hg.2, rfl⟩

theorem closedVals_getElem? {l : List Slot} {i : Nat} {sl : Slot} (h : l[i]? = some sl) :
    (closedVals l)[i]? = some (sl.closedAs.getD none) := by
  simp [closedVals, h]

/-- **C13 wait mode, at the level of the emitted entry.** When the entry is handed to the sink and no
force-flush guard has begun to drop, every opened wait-mode slot `i` appears in it as `Some` of its guard's
last value. -/
theorem c13_wait_in_entry (hr : Reachable cfg s) (h : step s .emit = some s') {i : Nat} {sl : Slot}
    (hsl : s.slots[i]? = some sl) (ho : sl.opened = true) (hw : sl.mode = .wait) (hd : s.dgBegun = 0) :
    ∃ a, s'.appended = s.appended ++ [a] ∧ a.slots[i]? = some (some sl.gval) := by
  obtain ⟨h1, h2, -⟩ := c13_emitted_slots h
  refine ⟨_, h1, ?_⟩
  have hm := List.mem_of_getElem? hsl
  have hcl : sl.closedAs.isSome = true := by
    simp only [allClosed, List.all_eq_true] at h2
    exact h2 sl hm
  cases hc : sl.closedAs with
  | none => simp [hc] at hcl
  | some r =>
    have := c13_wait_never_lost hr hm hc ho hw hd
    simp [closedVals_getElem? hsl, hc, this]

/-- **C13 `Slot::close` is total.** Whenever a thread is inside the entry's destructor, its next step (close
the next field, or hand the entry to the sink) is enabled: there is no state — in particular none after a
cancelled `wait_for_data` — in which closing a slot has no result. -/
theorem c13_close_total (_hr : Reachable cfg s) (ha : anyApp s = true) :
    (step s .closeSlot).isSome = true ∨ (step s .emit).isSome = true :=
  app_enabled ha

/-! ## The order inside `SlotGuard::drop`: send, then release

In the model a slot guard's drop is two micro-steps, `gSend` (the `tx.send(value.close())` of the drop body) and
`gRelease` (the field drop of `parent_drop_mode`, i.e. of the flush guard in wait mode), and `c13_wait_never_lost` /
`c13_wait_blocks_close` quantify over every schedule — in particular over those that put the parent's whole drop (and the
drop of every other flush guard) *before* `gSend` (the value's `close()` still running: nothing the model can see has
happened yet, the guard is `live` and holds its flush guard) or *between* `gSend` and `gRelease`.  The value is never lost
because the release comes after the send.  The variant below releases first (seeded change C13-k: "release the flush guard
before the possibly slow `close()` unless we are the last holder"): the same schedule loses the value. -/

inductive EvRF where
  | ev (e : Ev)
  /-- `SlotGuard::drop` of slot `i` gives its flush guard up *before* closing and sending (wait mode, not the last holder) -/
  | releaseFirst (i : Nat)
  deriving DecidableEq, Repr

def stepRF (s : St) : EvRF → Option St
  | .ev e => step s e
  | .releaseFirst i =>
    match s.slots[i]? with
    | none => none
    | some sl =>
      if sl.g = .live ∧ sl.mode = .wait ∧ s.gS > 1 then
        some (dropFG (setSlot s i fun sl => { sl with mode := .discard }))
      else none

def runRF (s : St) : List EvRF → Option St
  | [] => some s
  | e :: es => match stepRF s e with
    | none => none
    | some s' => runRF s' es

/-- witness: a wait-mode guard starts to drop while the parent is alive and gives its flush guard up first; the parent is
dropped while the value's `close()` is still running; the entry is closed and appended **without the slot value** although
no force-flush guard exists; the later send goes to a dead channel. -/
example : (runRF (init [fresh (false, 3)]) [.ev .newFG, .ev (.open 0 .wait 0), .ev (.gmut 0 9), .releaseFirst 0,
            .ev .refDrop, .ev .pDecV, .ev .pDecG, .ev .innerDrop, .ev .closeSlot, .ev .emit, .ev (.gSend 0),
            .ev (.gRelease 0)]).map (fun s => (s.appended, s.dgBegun, inFlight s))
    = some ([⟨0, 0, [none]⟩], 0, false) := by decide

/-- the model as it is, same schedule with the parent's whole drop before the guard's `gSend` (`close()` still running):
the flush guard is still held, nothing is appended until the guard has sent and released — and then with the value. -/
example : (run (init [fresh (false, 3)]) [.newFG, .open 0 .wait 0, .gmut 0 9, .refDrop, .pDecV, .pDecG]).map
      (fun s => (s.appended.length, anyApp s, (step s .innerDrop).isSome))
    = some (0, false, false) := by decide

example : (run (init [fresh (false, 3)]) [.newFG, .open 0 .wait 0, .gmut 0 9, .refDrop, .pDecV, .pDecG, .gSend 0,
            .gRelease 0, .innerDrop, .closeSlot, .emit]).map (fun s => s.appended)
    = some [⟨0, 0, [some 9]⟩] := by decide

/-- the corpus case of the defect fixed by 839103f: open Discard, poll `wait_for_data` once, drop the future,
drop the guard, drop the parent: the entry is appended, with the slot value. -/
example : (run (init [fresh (false, 3)]) [.open 0 .discard 0, .waitBegin 0, .waitCancel, .gSend 0, .gRelease 0,
            .refDrop, .pDecV, .pDecG, .innerDrop, .closeSlot, .emit]).map (fun s => (s.appended, inFlight s))
    = some ([⟨0, 0, [some 3]⟩], false) := by decide

/-- wait mode, parent dropped first, on another thread, while the guard's drop is between its send and the
release of its flush guard (perturbation point 13): the append waits and carries the value. -/
example : (run (init [fresh (false, 3), fresh (true, 0)]) [.newFG, .open 0 .wait 0, .gmut 0 9, .gSend 0, .refDrop, .pDecV,
            .pDecG, .gRelease 0, .innerDrop, .closeSlot, .closeSlot, .emit]).map (fun s => s.appended)
    = some [⟨0, 0, [some 9, none]⟩] := by decide

/-- discard mode, the entry closes between the guard's creation and its send: the slot is absent, the rest intact -/
example : (run (init [fresh (true, 0)]) [.mutate 4, .open 0 .discard 8, .refDrop, .pDecV, .pDecG, .innerDrop,
            .closeSlot, .gSend 0, .emit, .gRelease 0]).map (fun s => s.appended)
    = some [⟨4, 0, [none]⟩] := by decide

/-- a force-flush guard releases the entry although a wait-mode guard is alive: the value is (legitimately) lost -/
example : (run (init [fresh (false, 3)]) [.newFG, .open 0 .wait 0, .newDG, .refDrop, .pDecV, .pDecG, .dgBegin, .dgLock,
            .lRun, .closeSlot, .emit, .lUnlock, .dgDec, .gSend 0, .gRelease 0, .innerDrop]).map
      (fun s => (s.appended, s.dgBegun, inFlight s))
    = some ([⟨0, 0, [none]⟩], 1, false) := by decide

end KeepAlive

#print axioms KeepAlive.c13_wait_never_lost
#print axioms KeepAlive.c13_wait_blocks_close
#print axioms KeepAlive.c13_closed_iff_sent
#print axioms KeepAlive.c13_sentOk_set
#print axioms KeepAlive.c13_not_sent
#print axioms KeepAlive.c13_single_open
#print axioms KeepAlive.c13_close_total
#print axioms KeepAlive.c13_emitted_slots
#print axioms KeepAlive.c13_wait_in_entry
