import Props.C06RefineB
import Props.C06Slack
/-!
# C06 (and C13, see `Props/C13Refine.lean`) — every behaviour of the micro-step model is accepted by the specification predicate

`Spec.accept` (`Model/KeepAliveSpec.lean`) judges histories recorded from real multi-threaded runs (T-trace).
Here: for every schedule of the micro-step model `KeepAlive.step` — any interleaving of the atomic steps of any
number of threads, any numbers of handles, flush guards, force-flush guards and slot fields — the history the
schedule induces (`historyOf`, `Model/KeepAliveHistory.lean`: the begin / end / append observations of the
harness, placed at the first / last micro-step of each drop) is accepted.  Hence a real trace that
`Spec.accept` rejects is not a behaviour of the model.

The proof is a forward simulation: `Sim s w t` (`Props/C06RefineLemmas.lean`) relates a model state `s` (and the
ghost `w`) to a state `t` of the specification automaton; every enabled event maps to a sequence of observations
that the automaton accepts from `t`, ending in a related state (`sim_step`).  The clauses of `Spec.feed` are
discharged by the C06 invariant `Inv` ("not early": `anyApp_cond_inv`; "at most once": `apps0/apps1`; "not late":
`not_late_inv`) and the C13 invariants `SlotOk` / `SInv` (slot values).
-/
namespace KeepAlive
open Spec

variable {cfg : List (Bool × Nat)} {s s' : St} {w : Option Nat} {t : SSt}

theorem sim_step {e : Ev} (hi : Inv s) (hsinv : SInv s) (hsim : Sim s w t) (h : step s e = some s') :
    StepSim s w t e s' := by
  have hinfl := hsim.infl
  cases step_cases h with
  | newFG hu =>
    exact stepSim_one hi h rfl (if_pos (hsim.refs_pos hu)) { hsim with fg := by have := hsim.fg; dsimp only; omega }
  | newDG hu => exact stepSim_one hi h rfl (if_pos (hsim.refs_pos hu)) { hsim with dg := congrArg (· + 1) hsim.dg }
  | mutate v hu => exact stepSim_one hi h rfl (if_pos (hsim.refs_pos hu)) { hsim with plain := rfl }
  | hit v hu => exact stepSim_one hi h rfl (if_pos (hsim.refs ▸ hu.1)) { hsim with hits := rfl }
  | cloneHandle hu =>
    exact stepSim_one hi h rfl (if_pos (hsim.refs ▸ hu.1)) { hsim with refs := congrArg (· + 1) hsim.refs }
  | toHandle | waitCancel => exact stepSim_zero rfl { hsim with }
  | waitBegin _ sl hsl | waitPoll _ sl _ hsl => exact stepSim_zero rfl (sim_wait_slots hsim hsl)
  | lRun hpc =>
    exact stepSim_zero rfl
      { hsim with infl := by rw [hpc] at hinfl; dsimp only; rw [lF_pos (by split <;> simp)]; exact hinfl }
  | lUnlock hpc => exact stepSim_zero rfl { hsim with infl := by rw [hpc] at hinfl; simp only [lF] at hinfl ⊢; omega }
  | pDecV hpc => exact stepSim_zero rfl { hsim with infl := by rw [hpc] at hinfl; dsimp only; split <;> exact hinfl }
  | refDropLast | refDrop => exact sim_refDrop hi hsim h
  | openAgainWait | openAgain | «open» => exact sim_open _ _ _ hi hsinv hsim h
  | fgDrop => exact sim_fgDrop hi hsim h
  | delayAgain | delay => exact sim_delay _ hi hsinv hsim h
  | gmut => exact sim_gmut _ _ hi hsinv hsim h
  | gSend => exact sim_gSend _ hi hsinv hsim h
  | gReleaseWait | gRelease => exact sim_gRelease _ hi hsinv hsim h
  | dgBeginDead | dgBegin => exact sim_dgBegin hi hsim h
  | dgLockTake | dgLock => exact sim_dgLock hi hsim h
  | dgDec => exact sim_dgDec hi hsim h
  | pDecG => exact sim_pDecG hi hsim h
  | innerDropLast | innerDropMore | innerDrop => exact sim_innerDrop hi hsinv hsim h
  | closeSlot => exact sim_closeSlot hsim h
  | emit => exact sim_emit hi hsinv hsim h

theorem feedAll_historyFrom (hr : Reachable cfg s) (hsim : Sim s w t) (evs : List Ev) :
    ∃ t', feedAll t (historyFrom s w evs) = some t' ∧ ∀ s', run s evs = some s' → ∃ w', Sim s' w' t' := by
  induction evs generalizing s w t with
  | nil => exact ⟨t, rfl, fun s' h => ⟨w, Option.some.inj h ▸ hsim⟩⟩
  | cons e es ih =>
    simp only [historyFrom, run]
    cases hs : step s e with
    | none => exact ⟨t, rfl, fun _ h => nomatch h⟩
    | some s1 =>
      obtain ⟨t1, hf, hs1⟩ := sim_step (inv_reachable hr) (sinv_reachable hr) hsim hs
      obtain ⟨t', hf', hs'⟩ := ih (hr.step e hs) hs1
      exact ⟨t', (feedAll_append hf _).trans hf', hs'⟩

theorem accept_of_feedAll {os : List Obs} (h : feedAll t os = some t') : acceptFrom t os = true := by
  have := acceptFrom_append t os []
  rw [List.append_nil, h] at this
  exact this

/-- **C06 refinement: every history of the model is accepted.**  For every list of slot fields `cfg` and every
event sequence `evs` — every schedule of every number of threads, handles, guards and force-flush guards — the
history induced by (the longest enabled prefix of) `evs` from the initial state is accepted by `Spec.accept`:
the append is observed at most once, never before the owner, every handle and (every flush guard or one
force-flush guard) have begun to drop, with the contents last written, and never later than the first instant at
which nothing is in flight and those drops have returned. -/
theorem c06_model_histories_accepted (cfg : List (Bool × Nat)) (evs : List Ev) :
    Spec.accept cfg.length (historyOf (cfg.map fresh) evs) = true :=
  have ⟨_, hf, _⟩ := feedAll_historyFrom Reachable.init (sim_init cfg) evs
  accept_of_feedAll hf

/-- … in particular for every complete run (`run … = some s'`, i.e. every reachable state `s'`), and then the
automaton's final state agrees with the model's: the history contains an `app` observation iff the model's sink
has the entry (`apps = appended.length`), the automaton's counters are the model's. -/
theorem c06_model_run_tracked (cfg : List (Bool × Nat)) {evs : List Ev} {s' : St}
    (h : run (init (cfg.map fresh)) evs = some s') :
    Spec.accept cfg.length (historyOf (cfg.map fresh) evs) = true ∧
    ∃ t' w', feedAll (start cfg.length) (historyOf (cfg.map fresh) evs) = some t' ∧ Sim s' w' t' :=
  have ⟨t', hf, hs⟩ := feedAll_historyFrom Reachable.init (sim_init cfg) evs
  have ⟨w', hs'⟩ := hs s' h
  ⟨accept_of_feedAll hf, t', w', hf, hs'⟩

/-- **Logging slack (partial).** The harness logs `eX` some time *after* the last atomic operation of a drop,
possibly after observations of other threads.  For the ends of owner / flush-guard / force-flush-guard drops this
keeps a history accepted: moving an `eR`, `eF` or `eD` one place to the right preserves `Spec.accept` (one adjacent
transposition is what is stated; any number of places follows by iterating it, with `c06_model_histories_accepted` for the
history of a model schedule to start from).

Missing for the full statement (argued in notes/C06.md): the same for `eG i` (needs a "more permissive" preorder on
automaton states because `sure := !cond` is evaluated later) and for `bR`/`bF`/`bD`/`bG i` moved to the left across
observations of other threads. -/
theorem c06_logging_slack_partial (n : Nat) (pre rest : List Obs) {e o : Obs} (he : e = .eR ∨ e = .eF ∨ e = .eD)
    (h : Spec.accept n (pre ++ e :: o :: rest) = true) : Spec.accept n (pre ++ o :: e :: rest) = true := by
  simp only [Spec.accept, acceptFrom_append] at h ⊢
  cases hf : feedAll (start n) pre with
  | none => simp [hf] at h
  | some t1 =>
    simp only [hf] at h ⊢
    exact acceptFrom_end_later he h

/-- two threads: the owner's drop (`bR … eR`) interleaved with a force-flush guard's drop (`bD … eD`); the
force-flush thread appends while the owner's thread is between its two field drops -/
example : historyOf [] [.newFG, .newDG, .mutate 7, .hit 5, .refDrop, .dgBegin, .pDecV, .dgLock, .pDecG,
            .lRun, .emit, .lUnlock, .dgDec]
    = [.nF, .nD, .mut 7, .hit 5, .bR, .bD, .eR, .app 7 5 [], .eD] := by decide

example : Spec.accept 0 [.nF, .nD, .mut 7, .hit 5, .bR, .bD, .eR, .app 7 5 [], .eD] = true := by decide

/-- corrupted histories are rejected: appended while a flush guard is alive (early) … -/
example : Spec.accept 0 [.nF, .bR, .app 0 0 [], .eR] = false := by decide
/-- … force flush ineffective (late) … -/
example : Spec.accept 0 [.nF, .nD, .bR, .eR, .bD, .eD] = false := by decide
/-- … never appended … -/
example : Spec.accept 0 [.nD, .bD, .eD, .bR, .eR] = false := by decide
/-- … appended twice … -/
example : Spec.accept 0 [.bR, .app 0 0 [], .app 0 0 [], .eR] = false := by decide
/-- … stale contents. -/
example : Spec.accept 0 [.mut 7, .bR, .app 0 0 [], .eR] = false := by decide
/-- slack: the owner's `eR` of the first example logged two places later (after the append) is still accepted -/
example : Spec.accept 0 [.nF, .nD, .mut 7, .hit 5, .bR, .bD, .app 7 5 [], .eD, .eR] = true := by decide

end KeepAlive

#print axioms KeepAlive.c06_model_histories_accepted
#print axioms KeepAlive.c06_model_run_tracked
#print axioms KeepAlive.c06_logging_slack_partial
