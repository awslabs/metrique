import Model.Emf
/-!
# C14 — formatting one entry never depends on entries formatted before it

The model (`Model/Emf.lean`) keeps between calls exactly what the Rust `State` keeps: six prefixed
string buffers and the dimension-set map. The theorems below say that the observable result of a
call (accept / reject with its error list / I/O failure, and every byte handed to the writer) is
the same from ANY state reachable by ANY sequence of earlier calls (accepted, rejected, split,
sampled with any multiplicity, with an invalid rate, I/O-failed after any number of bytes) as from
the freshly built formatter.

Proof: (1) every buffer always starts with its fixed prefix and `prefix_len` never changes
(`State.WF`, an invariant of `format`: buffers are only appended to, cleared, or truncated back to a
length they had earlier in the same call); (2) four buffers and the map are cleared at the start of
a call, so the call starts from the fresh state except for `counts_buf` and `dimensions_buf`;
(3) those two are cleared before their first read (`writeMetricValue_counts`, `finishGlobal_dims`),
so two writers that differ only there (`Writer.withCD`) stay so through every writer call
(`WriterCall.commutes`) and produce the same output in `finish` (`finish_withCD`).
-/
namespace Emf
open Json

def PBuf.WF (pre : Bytes) (b : PBuf) : Prop := b.prefixLen = pre.length ∧ ∃ rest, b.buf = pre ++ rest

def PBuf.Ext (b b' : PBuf) : Prop := b'.prefixLen = b.prefixLen ∧ ∃ x, b'.buf = b.buf ++ x

theorem PBuf.WF.new (pre : Bytes) : (PBuf.new pre).WF pre := ⟨rfl, [], by simp [PBuf.new]⟩

theorem PBuf.WF.clear_eq {pre : Bytes} {b : PBuf} (h : b.WF pre) : b.clear = PBuf.new pre := by
  obtain ⟨h1, rest, h2⟩ := h
  simp [PBuf.clear, PBuf.new, h1, h2]

theorem PBuf.WF.clear {pre : Bytes} {b : PBuf} (h : b.WF pre) : b.clear.WF pre := by
  rw [h.clear_eq]; exact PBuf.WF.new pre

theorem PBuf.Ext.refl (b : PBuf) : b.Ext b := ⟨rfl, [], by simp⟩

theorem PBuf.Ext.trans {a b c : PBuf} (h1 : a.Ext b) (h2 : b.Ext c) : a.Ext c := by
  obtain ⟨p1, x, e1⟩ := h1
  obtain ⟨p2, y, e2⟩ := h2
  exact ⟨by rw [p2, p1], x ++ y, by rw [e2, e1, List.append_assoc]⟩

theorem PBuf.Ext.wf {pre : Bytes} {b b' : PBuf} (h : b.Ext b') (hw : b.WF pre) : b'.WF pre := by
  obtain ⟨p, x, e⟩ := h
  obtain ⟨h1, rest, h2⟩ := hw
  exact ⟨by rw [p, h1], rest ++ x, by rw [e, h2, List.append_assoc]⟩

theorem PBuf.ext_push (b : PBuf) (c : Nat) : b.Ext (b.push c) := ⟨rfl, [c], rfl⟩
theorem PBuf.ext_pushIf (b : PBuf) (w : Bool) (c : Nat) : b.Ext (if w then b.push c else b) := by
  cases w
  · exact PBuf.Ext.refl b
  · exact PBuf.ext_push b c
theorem PBuf.ext_pushRaw (b : PBuf) (s : Bytes) : b.Ext (b.pushRaw s) := ⟨rfl, s, rfl⟩
theorem PBuf.ext_pushInt (b : PBuf) (n : Nat) : b.Ext (b.pushInt n) := ⟨rfl, _, rfl⟩
theorem PBuf.ext_jsonString (b : PBuf) (s : Bytes) : b.Ext (b.jsonString s) := ⟨rfl, _, rfl⟩
/-- `,"name":` -/
theorem PBuf.ext_key (b : PBuf) (name : Bytes) : b.Ext (((b.push 44).jsonString name).push 58) :=
  ((PBuf.ext_push _ _).trans (PBuf.ext_jsonString _ _)).trans (PBuf.ext_push _ _)
theorem PBuf.ext_extendFromWithin (b : PBuf) (i j : Nat) : b.Ext (b.extendFromWithin i j) := ⟨rfl, _, rfl⟩

theorem PBuf.Ext.truncate {b b' : PBuf} (h : b.Ext b') : b'.truncate b.buf.length = b := by
  obtain ⟨p, x, e⟩ := h
  cases b; cases b'
  simp_all [PBuf.truncate]

/-- the texts `write_observation` appends to the values and to the counts; `none`: skipped -/
def obsText (mult : Option Nat) : Obs → Option (Bytes × Bytes)
  | .unsigned v => some (natDigits v, natDigits (mult.getD 1))
  | .floating (some t) => some (stripDotZero t, natDigits (mult.getD 1))
  | .repeated (some t) occ => some (stripDotZero t, natDigits (satMul occ (mult.getD 1)))
  | _ => none

theorem writeObservation_eq (buf counts : PBuf) (o : Obs) (mult : Option Nat) :
    writeObservation buf counts o mult =
      match obsText mult o with
      | some t => (buf.pushRaw t.1, counts.pushRaw t.2, true)
      | none => (buf, counts, false) := by
  cases o with
  | unsigned v => rfl
  | floating f => cases f <;> rfl
  | repeated f occ => cases f <;> rfl

/-- `x,y,…`, with a comma in front as well when something was written before -/
def commas (wrote : Bool) : List Bytes → Bytes
  | [] => []
  | x :: l => (if wrote then 44 :: x else x) ++ (l.map (44 :: ·)).flatten

theorem commas_true (l : List Bytes) : commas true l = (l.map (44 :: ·)).flatten := by
  cases l <;> rfl

theorem PBuf.pushRaw_nil (b : PBuf) : b.pushRaw [] = b := by
  cases b; simp [PBuf.pushRaw]

theorem obsLoop_eq (mult : Option Nat) (obs : List Obs) (buf counts : PBuf) (wrote : Bool) :
    obsLoop mult obs buf counts wrote =
      (buf.pushRaw (commas wrote ((obs.filterMap (obsText mult)).map (·.1))),
       counts.pushRaw (commas wrote ((obs.filterMap (obsText mult)).map (·.2))),
       wrote || !(obs.filterMap (obsText mult)).isEmpty) := by
  induction obs generalizing buf counts wrote with
  | nil => simp [obsLoop, commas, PBuf.pushRaw_nil]
  | cons o rest ih =>
    rw [obsLoop, writeObservation_eq, List.filterMap_cons]
    cases obsText mult o with
    | none =>
      dsimp only
      -- the comma written ahead of a skipped observation is truncated away
      rw [(buf.ext_pushIf wrote 44).truncate, (counts.ext_pushIf wrote 44).truncate]
      exact ih buf counts wrote
    | some t =>
      dsimp only
      rw [ih, commas_true, commas_true]
      cases wrote <;> simp [commas, PBuf.pushRaw, PBuf.push]

theorem observations_eq (buf counts : PBuf) (first : Obs) (rest : List Obs) (mult : Option Nat) :
    obsLoop mult rest (writeObservation buf counts first mult).1 (writeObservation buf counts first mult).2.1
      (writeObservation buf counts first mult).2.2 = obsLoop mult (first :: rest) buf counts false := by
  simp only [obsLoop, Bool.false_eq_true, ↓reduceIte, writeObservation_eq]
  cases obsText mult first with
  | none => dsimp only; rw [(PBuf.Ext.refl buf).truncate, (PBuf.Ext.refl counts).truncate]
  | some t => rfl

def valuesObj (V C : Bytes) : Bytes := bytes! "{\"Values\":[" ++ V ++ countsPrefix ++ C ++ bytes! "]}"

def valuesText (mult : Option Nat) (obs : List Obs) : Bytes :=
  valuesObj (commas false ((obs.filterMap (obsText mult)).map (·.1))) (commas false ((obs.filterMap (obsText mult)).map (·.2)))

/-- `counts_buf` is cleared before its first read and after its last: the result depends on it only through its
prefix -/
theorem writeValues_eq (buf : PBuf) {counts : PBuf} (h : counts.WF countsPrefix) (first : Obs) (rest : List Obs)
    (mult : Option Nat) :
    writeValues buf counts first rest mult =
      (buf.pushRaw (valuesText mult (first :: rest)), PBuf.new countsPrefix,
        !((first :: rest).filterMap (obsText mult)).isEmpty) := by
  unfold writeValues
  simp only [h.clear_eq, observations_eq]
  simp only [obsLoop_eq, ((PBuf.ext_pushRaw _ _).wf (PBuf.WF.new _)).clear_eq, Bool.false_or]
  simp only [PBuf.pushRaw, PBuf.new, valuesText, valuesObj, List.append_assoc]

theorem writeMetricValue_ext (name : Bytes) (fields : PBuf) {counts : PBuf} (h : counts.WF countsPrefix) (first : Obs)
    (rest : List Obs) (mult : Option Nat) : fields.Ext (writeMetricValue name fields counts first rest mult).1 := by
  have h0 := fields.ext_key name
  unfold writeMetricValue
  simp only
  split
  · exact h0.trans (PBuf.ext_pushInt _ _)
  · exact h0.trans (PBuf.ext_pushRaw _ _)
  · exact h0
  · rw [writeValues_eq _ h]
    exact h0.trans (PBuf.ext_pushRaw _ _)

theorem writeMetricValue_counts (name : Bytes) (fields : PBuf) {c c' : PBuf} (h : c.WF countsPrefix)
    (h' : c'.WF countsPrefix) (first : Obs) (rest : List Obs) (mult : Option Nat) :
    (writeMetricValue name fields c first rest mult).1 = (writeMetricValue name fields c' first rest mult).1 ∧
    (writeMetricValue name fields c first rest mult).2.2 = (writeMetricValue name fields c' first rest mult).2.2 ∧
    (writeMetricValue name fields c first rest mult).2.1.WF countsPrefix := by
  unfold writeMetricValue
  simp only
  split
  · exact ⟨rfl, rfl, h⟩
  · exact ⟨rfl, rfl, h⟩
  · exact ⟨rfl, rfl, h⟩
  · rw [writeValues_eq _ h, writeValues_eq _ h']
    exact ⟨rfl, rfl, PBuf.WF.new _⟩

theorem writeMetric_ext (name : Bytes) (fields metrics : PBuf) {counts : PBuf} (hc : counts.WF countsPrefix)
    (obs : List Obs) (unit : Option Bytes) (flags : Flags) (mult : Option Nat) :
    fields.Ext (writeMetric name fields metrics counts obs unit flags mult).1 ∧
    metrics.Ext (writeMetric name fields metrics counts obs unit flags mult).2.1 := by
  unfold writeMetric
  split
  · exact ⟨PBuf.Ext.refl _, PBuf.Ext.refl _⟩
  · rename_i first rest
    have h := writeMetricValue_ext name fields hc first rest mult
    split
    · rename_i f' c' heq
      rw [heq] at h
      simp only
      rw [h.truncate]
      exact ⟨PBuf.Ext.refl _, PBuf.Ext.refl _⟩
    · rename_i f' c' heq
      rw [heq] at h
      split
      · exact ⟨h, PBuf.Ext.refl _⟩
      · refine ⟨h, ?_⟩
        simp only
        split
        · exact (PBuf.ext_push _ _).trans (PBuf.ext_pushRaw _ _)
        · exact PBuf.ext_pushRaw _ _

theorem writeMetric_counts (name : Bytes) (fields metrics : PBuf) {c c' : PBuf} (h : c.WF countsPrefix)
    (h' : c'.WF countsPrefix) (obs : List Obs) (unit : Option Bytes) (flags : Flags) (mult : Option Nat) :
    (writeMetric name fields metrics c obs unit flags mult).1 = (writeMetric name fields metrics c' obs unit flags mult).1 ∧
    (writeMetric name fields metrics c obs unit flags mult).2.1 = (writeMetric name fields metrics c' obs unit flags mult).2.1 ∧
    (writeMetric name fields metrics c obs unit flags mult).2.2.WF countsPrefix := by
  unfold writeMetric
  split
  · exact ⟨rfl, rfl, h⟩
  · rename_i first rest
    obtain ⟨e1, e2, w⟩ := writeMetricValue_counts name fields h h' first rest mult
    generalize writeMetricValue name fields c first rest mult = r at *
    generalize writeMetricValue name fields c' first rest mult = r' at *
    obtain ⟨f, cn, ok⟩ := r
    obtain ⟨f', cn', ok'⟩ := r'
    simp only at e1 e2 w
    subst e1 e2
    cases ok
    · exact ⟨rfl, rfl, w⟩
    · simp only
      split
      · exact ⟨rfl, rfl, w⟩
      · exact ⟨rfl, rfl, w⟩

def Writer.withCD (w : Writer) (cb db : PBuf) : Writer :=
  { w with st := { w.st with countsBuf := cb, dimensionsBuf := db } }

@[simp] theorem withCD_vmap (w : Writer) (cb db : PBuf) : (w.withCD cb db).vmap = w.vmap := rfl
@[simp] theorem withCD_entryDims (w : Writer) (cb db : PBuf) : (w.withCD cb db).entryDims = w.entryDims := rfl
@[simp] theorem withCD_timestamp (w : Writer) (cb db : PBuf) : (w.withCD cb db).timestamp = w.timestamp := rfl
@[simp] theorem withCD_errors (w : Writer) (cb db : PBuf) : (w.withCD cb db).errors = w.errors := rfl
@[simp] theorem withCD_allowSplit (w : Writer) (cb db : PBuf) : (w.withCD cb db).allowSplit = w.allowSplit := rfl
@[simp] theorem withCD_unroutable (w : Writer) (cb db : PBuf) : (w.withCD cb db).unroutable = w.unroutable := rfl
@[simp] theorem withCD_dimMap (w : Writer) (cb db : PBuf) : (w.withCD cb db).st.dimMap = w.st.dimMap := rfl
@[simp] theorem withCD_counts (w : Writer) (cb db : PBuf) : (w.withCD cb db).st.countsBuf = cb := rfl
@[simp] theorem withCD_dims (w : Writer) (cb db : PBuf) : (w.withCD cb db).st.dimensionsBuf = db := rfl
@[simp] theorem withCD_fields (w : Writer) (cb db : PBuf) : (w.withCD cb db).st.fieldsBuf = w.st.fieldsBuf := rfl
@[simp] theorem withCD_metrics (w : Writer) (cb db : PBuf) : (w.withCD cb db).st.metricsBuf = w.st.metricsBuf := rfl
@[simp] theorem withCD_withCD (w : Writer) (a b cb db : PBuf) : (w.withCD a b).withCD cb db = w.withCD cb db := rfl

structure State.WF (cfg : Config) (s : State) : Prop where
  sf : s.stringFieldsBuf.WF []
  f : s.fieldsBuf.WF fieldsPrefix
  m : s.metricsBuf.WF metricsPrefix
  d : s.dimensionsBuf.WF (dimensionsPrefix cfg)
  c : s.countsBuf.WF countsPrefix
  decl : s.declBuf.WF (extraDirectivesStr cfg.extraDirectives)

theorem State.WF.fresh (cfg : Config) : (State.fresh cfg).WF cfg :=
  ⟨PBuf.WF.new _, PBuf.WF.new _, PBuf.WF.new _, PBuf.WF.new _, PBuf.WF.new _, PBuf.WF.new _⟩

theorem State.WF.startCall {cfg : Config} {s : State} (h : s.WF cfg) : s.startCall.WF cfg :=
  ⟨h.sf.clear, h.f.clear, h.m.clear, h.d, h.c, h.decl.clear⟩

theorem State.WF.startCall_eq {cfg : Config} {s : State} (h : s.WF cfg) :
    s.startCall = { State.fresh cfg with countsBuf := s.countsBuf, dimensionsBuf := s.dimensionsBuf } := by
  unfold State.startCall State.fresh
  simp only [h.sf.clear_eq, h.f.clear_eq, h.m.clear_eq, h.decl.clear_eq]

/-! ### Writer calls

Every call on the `EntryWriter` is, up to steps that only touch the validation map, the error list
and the flags (`Frame`), setting the timestamp or one of four writes: the entry dimensions, a string
field, a metric on the global buffers, a metric on the buffers of a dimension-set entry
(`WriterCall`). What holds of all writer calls is proved by cases on that shape. -/

/-- `f` neither reads nor writes the formatter state, the entry dimensions and the timestamp -/
def Frame (f : Writer → Writer) : Prop :=
  ∀ (w : Writer) (s : State) (e : Option (List Bytes)) (t : Option Int),
    f { w with st := s, entryDims := e, timestamp := t } = { f w with st := s, entryDims := e, timestamp := t }

theorem Frame.eq {f : Writer → Writer} (h : Frame f) (w : Writer) :
    f w = { f w with st := w.st, entryDims := w.entryDims, timestamp := w.timestamp } :=
  h w w.st w.entryDims w.timestamp

theorem Frame.st {f : Writer → Writer} (h : Frame f) (w : Writer) : (f w).st = w.st := by
  have := congrArg Writer.st (h.eq w); exact this

theorem Frame.entryDims {f : Writer → Writer} (h : Frame f) (w : Writer) : (f w).entryDims = w.entryDims := by
  have := congrArg Writer.entryDims (h.eq w); exact this

theorem Frame.timestamp {f : Writer → Writer} (h : Frame f) (w : Writer) : (f w).timestamp = w.timestamp := by
  have := congrArg Writer.timestamp (h.eq w); exact this

theorem Frame.setSt {f : Writer → Writer} (h : Frame f) (w : Writer) (s : State) :
    f { w with st := s } = { f w with st := s } :=
  (h w s w.entryDims w.timestamp).trans (by dsimp only; rw [h.entryDims, h.timestamp])

theorem Frame.withCD {f : Writer → Writer} (h : Frame f) (w : Writer) (cb db : PBuf) :
    f (w.withCD cb db) = (f w).withCD cb db := by
  rw [Writer.withCD, Writer.withCD, h.st]
  exact h.setSt w _

theorem Frame.id : Frame fun w => w := fun _ _ _ _ => rfl

theorem Frame.comp {f g : Writer → Writer} (hf : Frame f) (hg : Frame g) : Frame fun w => g (f w) :=
  fun w s e t => (congrArg g (hf w s e t)).trans (hg (f w) s e t)

theorem Frame.foldl {α : Type} {f : Writer → α → Writer} (h : ∀ a, Frame (f · a)) (l : List α) :
    Frame (l.foldl f ·) := by
  induction l with
  | nil => exact Frame.id
  | cons a rest ih => exact (h a).comp ih

theorem Frame.err (e : ErrKind) : Frame (Writer.err · e) := fun _ _ _ _ => rfl

theorem validateName_cases (c : Consts) (name : Bytes) :
    (∃ e, ∀ w, validateName c w name = (w.err e, false)) ∨ ∀ w, validateName c w name = (w, true) := by
  by_cases h1 : (!c.validation.skipNames) = true
  · by_cases h2 : name.isEmpty = true
    · exact Or.inl ⟨.nameEmpty, fun w => by rw [validateName, if_pos h1, if_pos h2]⟩
    · by_cases h3 : name = bytes! "_aws"
      · exact Or.inl ⟨.nameAws, fun w => by rw [validateName, if_pos h1, if_neg h2, if_pos h3]⟩
      · exact Or.inr fun w => by rw [validateName, if_pos h1, if_neg h2, if_neg h3]
  · exact Or.inr fun w => by rw [validateName, if_neg h1]

theorem Frame.validateName (c : Consts) (name : Bytes) : Frame fun w => (validateName c w name).1 := by
  rcases validateName_cases c name with ⟨e, h⟩ | h
  · simp only [h]; exact Frame.err e
  · simp only [h]; exact Frame.id

theorem Frame.validateString (name : Bytes) : Frame (validateString · name) := by
  intro w s e t
  unfold Emf.validateString
  dsimp only
  cases w.vmap.find? name with
  | none => rfl
  | some k => cases k <;> rfl

theorem Frame.validateMetric (name : Bytes) (i : Nat) : Frame (validateMetric · name i) := by
  intro w s e t
  unfold Emf.validateMetric
  dsimp only
  cases w.vmap.find? name with
  | none => rfl
  | some k =>
    cases k with
    | metric idxs => dsimp only; cases idxs.contains i <;> rfl
    | _ => rfl

theorem Frame.metricCheck (c : Consts) (name : Bytes) (i : Nat) : Frame (metricCheck c · name i) := by
  intro w s e t
  unfold Emf.metricCheck
  dsimp only
  cases (!c.validation.skipUnique && !w.unroutable)
  · rfl
  · exact Frame.validateMetric name i w s e t

theorem Frame.metricPreCheck (c : Consts) (dims : List (Bytes × Bytes)) : Frame (metricPreCheck c · dims) := by
  intro w s e t
  unfold Emf.metricPreCheck
  dsimp only
  cases (!(c.allowIgnored || dims.isEmpty) && !w.allowSplit) <;> rfl

theorem Frame.entryDimsValidate (c : Consts) (dim : Bytes) : Frame (entryDimsValidate c · dim) := by
  intro w s e t
  unfold Emf.entryDimsValidate
  dsimp only
  cases w.vmap.find? dim with
  | none => rfl
  | some k =>
    cases k with
    | metric idxs => cases (!c.validation.skipUnique) <;> rfl
    | _ => rfl

/-- `config(EntryDimensions)` reads of the state only whether the map is empty, and writes none of it -/
theorem configEntryDims_frame (c : Consts) (w : Writer) (sets : List (List Bytes)) (s : State)
    (h : s.dimMap.isEmpty = w.st.dimMap.isEmpty) :
    configEntryDims c { w with st := s } sets = { configEntryDims c w sets with st := s } := by
  unfold configEntryDims
  dsimp only
  rw [h, (Frame.foldl (Frame.entryDimsValidate c) sets.flatten).setSt w s]
  cases w.st.dimMap.isEmpty with
  | false => rfl
  | true =>
    cases w.entryDims.isSome with
    | true => rfl
    | false =>
      cases sets.isEmpty with
      | true => rfl
      | false => cases (!c.validation.skipUnique || !c.validation.skipDimsExist) <;> rfl

theorem configEntryDims_st (c : Consts) (w : Writer) (sets : List (List Bytes)) :
    (configEntryDims c w sets).st = w.st := by
  have := congrArg Writer.st (configEntryDims_frame c w sets w.st rfl); exact this

theorem applyItem_timestamp (c : Consts) (mult : Option Nat) (w : Writer) (t : Int) :
    applyItem c mult w (.timestamp t) =
      { w with timestamp := some t,
               errors := w.errors ++ if w.timestamp.isSome then [.multipleTimestamps] else [] } := by
  unfold applyItem
  dsimp only
  cases w.timestamp.isSome
  · exact (congrArg (fun l => { w with timestamp := some t, errors := l }) (List.append_nil w.errors)).symm
  · rfl

/-- `Q` is what is known of the observations of a metric -/
inductive WriterCall (c : Consts) (mult : Option Nat) (Q : List Obs → Prop) : (Writer → Writer) → Prop where
  | frame {f : Writer → Writer} : Frame f → WriterCall c mult Q f
  | timestamp (t : Int) : WriterCall c mult Q (applyItem c mult · (.timestamp t))
  | entryDims (sets : List (List Bytes)) : WriterCall c mult Q (configEntryDims c · sets)
  | str {g : Writer → Writer} (name s : Bytes) :
      Frame g → WriterCall c mult Q fun w => g (pushStringField w name s)
  | global {g : Writer → Writer} (name : Bytes) (obs : List Obs) (unit : Option Bytes) (flags : Flags) :
      Frame g → Q obs → WriterCall c mult Q fun w => metricGlobalWrite mult (g w) name obs unit flags
  | split {g : Writer → Writer} (name : Bytes) (obs : List Obs) (unit : Option Bytes) (key : DimKey)
      (flags : Flags) : Frame g → Q obs →
      WriterCall c mult Q fun w =>
        metricSplitWrite mult (metricCheck c (g w) name (dimEntryFor c (g w) key).index)
          (dimEntryFor c (g w) key) name obs unit flags

theorem WriterCall.congr {c : Consts} {mult : Option Nat} {Q : List Obs → Prop} {f f' : Writer → Writer}
    (h : WriterCall c mult Q f) (e : ∀ w, f' w = f w) : WriterCall c mult Q f' :=
  (funext e : f' = f) ▸ h

theorem applyItem_call (c : Consts) (mult : Option Nat) {Q : List Obs → Prop} (it : Item)
    (hQ : ∀ name obs unit dims flags, it = .value name (.metric obs unit dims flags) → Q obs) :
    WriterCall c mult Q (applyItem c mult · it) := by
  cases it with
  | timestamp t => exact .timestamp t
  | allowSplit => exact .frame fun _ _ _ _ => rfl
  | otherCfg => exact .frame Frame.id
  | allowUnroutable => exact .frame fun _ _ _ _ => rfl
  | entryDims sets => exact .entryDims sets
  | value name v =>
    rcases validateName_cases c name with ⟨e, h⟩ | h
    · exact (WriterCall.frame (Frame.err e)).congr fun w => by simp only [applyItem, value, h]
    · cases v with
      | str s =>
        cases hu : c.validation.skipUnique with
        | false =>
          exact (WriterCall.str name s (Frame.validateString name)).congr fun w => by
            simp only [applyItem, value, h, valueString, hu]; rfl
        | true =>
          exact (WriterCall.str name s Frame.id).congr fun w => by
            simp only [applyItem, value, h, valueString, hu]; rfl
      | metric obs unit dims flags =>
        have hq := hQ name obs unit dims flags rfl
        cases hd : (c.allowIgnored || dims.isEmpty) with
        | true =>
          exact (WriterCall.global name obs unit flags
            ((Frame.metricPreCheck c dims).comp (Frame.metricCheck c name 0)) hq).congr fun w => by
              simp only [applyItem, value, h, valueMetric, valueMetricCore, hd, ↓reduceIte]
        | false =>
          exact (WriterCall.split name obs unit (dimKeyOf dims) flags (Frame.metricPreCheck c dims) hq).congr
            fun w => by simp only [applyItem, value, h, valueMetric, valueMetricCore, hd, Bool.false_eq_true, ↓reduceIte]
      | error => exact (WriterCall.frame (Frame.err .valueError)).congr fun w => by simp only [applyItem, value, h]
      | nothing => exact (WriterCall.frame Frame.id).congr fun w => by simp only [applyItem, value, h]

theorem metricGlobalWrite_wf {cfg : Config} (mult : Option Nat) {w : Writer} (h : w.st.WF cfg)
    (name : Bytes) (obs : List Obs) (unit : Option Bytes) (flags : Flags) :
    (metricGlobalWrite mult w name obs unit flags).st.WF cfg := by
  have he := writeMetric_ext name w.st.fieldsBuf w.st.metricsBuf h.c obs unit flags mult
  have hc := (writeMetric_counts name w.st.fieldsBuf w.st.metricsBuf h.c h.c obs unit flags mult).2.2
  exact ⟨h.sf, he.1.wf h.f, he.2.wf h.m, h.d, hc, h.decl⟩

theorem metricSplitWrite_wf {cfg : Config} (mult : Option Nat) {w : Writer} (h : w.st.WF cfg)
    (entry : DimEntry) (name : Bytes) (obs : List Obs) (unit : Option Bytes) (flags : Flags) :
    (metricSplitWrite mult w entry name obs unit flags).st.WF cfg := by
  have hc := (writeMetric_counts name entry.fieldsBuf entry.metricsBuf h.c h.c obs unit flags mult).2.2
  exact ⟨h.sf, h.f, h.m, h.d, hc, h.decl⟩

theorem WriterCall.wf {cfg : Config} {c : Consts} {mult : Option Nat} {Q : List Obs → Prop}
    {f : Writer → Writer} (h : WriterCall c mult Q f) {w : Writer} (hw : w.st.WF cfg) : (f w).st.WF cfg := by
  cases h with
  | frame hf => rw [hf.st]; exact hw
  | timestamp t => dsimp only; rw [applyItem_timestamp]; exact hw
  | entryDims sets => rw [configEntryDims_st]; exact hw
  | str name s hg =>
    rw [hg.st]
    exact ⟨((PBuf.ext_key _ name).trans (PBuf.ext_jsonString _ s)).wf hw.sf, hw.f, hw.m, hw.d, hw.c, hw.decl⟩
  | global name obs unit flags hg _ => exact metricGlobalWrite_wf mult (by rw [hg.st]; exact hw) _ _ _ _
  | split name obs unit key flags hg _ =>
    exact metricSplitWrite_wf mult (by rw [(Frame.metricCheck c name _).st, hg.st]; exact hw) _ _ _ _ _

theorem applyItem_wf {cfg : Config} (c : Consts) (mult : Option Nat) {w : Writer} (h : w.st.WF cfg)
    (it : Item) : (applyItem c mult w it).st.WF cfg :=
  (applyItem_call c mult (Q := fun _ => True) it fun _ _ _ _ _ _ => trivial).wf h

theorem foldl_applyItem_wf {cfg : Config} (c : Consts) (mult : Option Nat) (items : List Item)
    {w : Writer} (h : w.st.WF cfg) : (items.foldl (applyItem c mult) w).st.WF cfg := by
  induction items generalizing w with
  | nil => exact h
  | cons it rest ih => exact ih (applyItem_wf c mult h it)

def CommutesCD (cfg : Config) (f : Writer → Writer) : Prop :=
  ∀ (w : Writer) (cb db : PBuf), cb.WF countsPrefix → w.st.WF cfg →
    ∃ cb', cb'.WF countsPrefix ∧ f (w.withCD cb db) = (f w).withCD cb' db

theorem metricGlobalWrite_withCD (mult : Option Nat) (w : Writer) {cb : PBuf} (db : PBuf)
    (hcb : cb.WF countsPrefix) (hw : w.st.countsBuf.WF countsPrefix)
    (name : Bytes) (obs : List Obs) (unit : Option Bytes) (flags : Flags) :
    ∃ cb', cb'.WF countsPrefix ∧
      metricGlobalWrite mult (w.withCD cb db) name obs unit flags =
        (metricGlobalWrite mult w name obs unit flags).withCD cb' db := by
  obtain ⟨e1, e2, w1⟩ := writeMetric_counts name w.st.fieldsBuf w.st.metricsBuf hcb hw obs unit flags mult
  refine ⟨_, w1, ?_⟩
  unfold metricGlobalWrite
  simp only [withCD_fields, withCD_metrics, withCD_counts, e1, e2]
  rfl

theorem metricSplitWrite_withCD (mult : Option Nat) (w : Writer) {cb : PBuf} (db : PBuf)
    (hcb : cb.WF countsPrefix) (hw : w.st.countsBuf.WF countsPrefix) (entry : DimEntry)
    (name : Bytes) (obs : List Obs) (unit : Option Bytes) (flags : Flags) :
    ∃ cb', cb'.WF countsPrefix ∧
      metricSplitWrite mult (w.withCD cb db) entry name obs unit flags =
        (metricSplitWrite mult w entry name obs unit flags).withCD cb' db := by
  obtain ⟨e1, e2, w1⟩ := writeMetric_counts name entry.fieldsBuf entry.metricsBuf hcb hw obs unit flags mult
  refine ⟨_, w1, ?_⟩
  unfold metricSplitWrite
  simp only [withCD_dimMap, withCD_counts, e1, e2]
  rfl

theorem WriterCall.commutes {cfg : Config} {c : Consts} {mult : Option Nat} {Q : List Obs → Prop}
    {f : Writer → Writer} (h : WriterCall c mult Q f) : CommutesCD cfg f := by
  intro w cb db hcb hw
  cases h with
  | frame hf => exact ⟨cb, hcb, hf.withCD w cb db⟩
  | timestamp t => exact ⟨cb, hcb, by dsimp only; rw [applyItem_timestamp, applyItem_timestamp]; rfl⟩
  | entryDims sets =>
    refine ⟨cb, hcb, (configEntryDims_frame c w sets { w.st with countsBuf := cb, dimensionsBuf := db } rfl).trans ?_⟩
    rw [Writer.withCD, configEntryDims_st]
  | str name s hg => exact ⟨cb, hcb, hg.withCD (pushStringField w name s) cb db⟩
  | global name obs unit flags hg _ =>
    dsimp only
    rw [hg.withCD]
    exact metricGlobalWrite_withCD mult _ db hcb (by rw [hg.st]; exact hw.c) name obs unit flags
  | split name obs unit key flags hg _ =>
    dsimp only
    rw [hg.withCD]
    show ∃ cb', _ ∧ metricSplitWrite mult (metricCheck c ((_ : Writer).withCD cb db) name _) _ name obs unit flags = _
    rw [(Frame.metricCheck c name _).withCD]
    exact metricSplitWrite_withCD mult _ db hcb (by rw [(Frame.metricCheck c name _).st, hg.st]; exact hw.c) _ name obs
      unit flags

theorem foldl_applyItem_commutes (cfg : Config) (c : Consts) (mult : Option Nat) (items : List Item) :
    CommutesCD cfg (fun w => items.foldl (applyItem c mult) w) := by
  induction items with
  | nil => exact fun w cb db hcb _ => ⟨cb, hcb, rfl⟩
  | cons it rest ih =>
    intro w cb db hcb hw
    obtain ⟨cb1, h1, e1⟩ :=
      (applyItem_call c mult (Q := fun _ => True) it fun _ _ _ _ _ _ => trivial).commutes w cb db hcb hw
    obtain ⟨cb2, h2, e2⟩ := ih (applyItem c mult w it) cb1 db h1 (applyItem_wf c mult hw it)
    exact ⟨cb2, h2, (congrArg (rest.foldl (applyItem c mult)) e1).trans e2⟩

theorem finishGlobal_dims (cfg : Config) (c : Consts) (s : State) (cb db : PBuf)
    (hs : s.dimensionsBuf.WF (dimensionsPrefix cfg)) (hdb : db.WF (dimensionsPrefix cfg))
    (dims : List Bytes) (out : Out) :
    (finishGlobal c { s with countsBuf := cb, dimensionsBuf := db } dims out).2 = (finishGlobal c s dims out).2 := by
  unfold finishGlobal
  simp only [hs.clear_eq, hdb.clear_eq]

theorem finishWrite_dims (cfg : Config) (c : Consts) (s : State) (cb db : PBuf)
    (hs : s.dimensionsBuf.WF (dimensionsPrefix cfg)) (hdb : db.WF (dimensionsPrefix cfg))
    (dims : List Bytes) (ts : Bytes) (out : Out) :
    (finishWrite c { s with countsBuf := cb, dimensionsBuf := db } dims ts out).2 = (finishWrite c s dims ts out).2 := by
  unfold finishWrite
  simp only
  generalize finishDims c ts (s.stringFieldsBuf.pushRaw (bytes! "}\n")).buf s.dimMap out false = r
  obtain ⟨dm, o, any⟩ := r
  dsimp only
  cases o.failed with
  | true => rfl
  | false =>
    cases (!any || !s.fieldsBuf.isEmpty) with
    | true => exact finishGlobal_dims cfg c ⟨dm, _, _, _, s.dimensionsBuf, s.countsBuf, _⟩ cb db hs hdb dims o
    | false => rfl

/-- `dimensions_buf` is cleared before its first read; `counts_buf` is not read by `finish` -/
theorem finish_withCD (cfg : Config) (c : Consts) (w : Writer) (cb db : PBuf)
    (hs : w.st.dimensionsBuf.WF (dimensionsPrefix cfg)) (hdb : db.WF (dimensionsPrefix cfg))
    (nowMs : Nat) (out : Out) :
    (finish c (w.withCD cb db) nowMs out).2 = (finish c w nowMs out).2 := by
  unfold finish
  have he : finishErrors c (w.withCD cb db) = finishErrors c w := rfl
  simp only [he, withCD_timestamp, withCD_entryDims]
  split
  · rfl
  · exact finishWrite_dims cfg c w.st cb db hs hdb _ _ out

theorem pushDimensions_ext (dims : List Bytes) (first : Bool) (b : PBuf) :
    b.Ext (pushDimensions dims first b) := by
  induction dims generalizing first b with
  | nil => exact PBuf.Ext.refl _
  | cons d rest ih =>
    unfold pushDimensions
    refine PBuf.Ext.trans ?_ (ih false _)
    split
    · exact PBuf.ext_pushRaw _ _
    · exact (PBuf.ext_push _ _).trans (PBuf.ext_pushRaw _ _)

theorem replicateNsGlobal_ext (moreNs : List Bytes) (tail : Bytes) (n : Nat) (mb : PBuf) :
    mb.Ext (replicateNsGlobal moreNs tail n mb) := by
  unfold replicateNsGlobal
  induction moreNs generalizing mb with
  | nil => exact PBuf.Ext.refl _
  | cons ns rest ih =>
    simp only [List.foldl_cons]
    exact ((((PBuf.ext_pushRaw _ _).trans (PBuf.ext_pushRaw _ _)).trans (PBuf.ext_pushRaw _ _)).trans
      (PBuf.ext_extendFromWithin _ _ _)).trans (ih _)

theorem finishGlobal_wf {cfg : Config} (c : Consts) {s : State} (h : s.WF cfg) (dims : List Bytes) (out : Out) :
    (finishGlobal c s dims out).1.WF cfg := by
  unfold finishGlobal
  exact ⟨h.sf, h.f, ((PBuf.ext_pushRaw _ _).trans (replicateNsGlobal_ext _ _ _ _)).wf h.m,
    (pushDimensions_ext _ _ _).wf h.d.clear, h.c, h.decl⟩

theorem finishWrite_wf {cfg : Config} (c : Consts) {s : State} (h : s.WF cfg) (dims : List Bytes)
    (ts : Bytes) (out : Out) : (finishWrite c s dims ts out).1.WF cfg := by
  unfold finishWrite
  simp only
  generalize finishDims c ts (s.stringFieldsBuf.pushRaw (bytes! "}\n")).buf s.dimMap out false = r
  obtain ⟨dm, o, any⟩ := r
  simp only
  have h' : State.WF cfg ⟨dm, s.stringFieldsBuf.pushRaw (bytes! "}\n"), s.fieldsBuf, s.metricsBuf,
      s.dimensionsBuf, s.countsBuf, (s.declBuf.pushRaw c.logGroupTs).pushRaw ts⟩ :=
    ⟨(PBuf.ext_pushRaw _ _).wf h.sf, h.f, h.m, h.d, h.c,
      ((PBuf.ext_pushRaw _ _).trans (PBuf.ext_pushRaw _ _)).wf h.decl⟩
  cases o.failed with
  | true => exact h'
  | false =>
    cases (!any || !s.fieldsBuf.isEmpty) with
    | true => exact finishGlobal_wf c h' dims o
    | false => exact h'

theorem finish_wf {cfg : Config} (c : Consts) {w : Writer} (h : w.st.WF cfg) (nowMs : Nat) (out : Out) :
    (finish c w nowMs out).1.WF cfg := by
  unfold finish
  simp only
  split
  · exact h
  · exact finishWrite_wf c h _ _ out

theorem format_wf {cfg : Config} (c : Consts) {s : State} (h : s.WF cfg) (call : Call) :
    (format c s call).1.WF cfg := by
  unfold format
  split
  · exact h
  · unfold formatWithMultiplicity
    exact finish_wf c (foldl_applyItem_wf c call.mult call.items (w := Writer.start c s) h.startCall) _ _

theorem partialWriteMetric_spec (name : Bytes) (fields : PBuf) {counts : PBuf} (hc : counts.WF countsPrefix)
    (yielded : List Obs) (mult : Option Nat) :
    fields.Ext (partialWriteMetric name fields counts yielded mult).1 ∧
    (partialWriteMetric name fields counts yielded mult).2.WF countsPrefix := by
  have h0 := fields.ext_key name
  unfold partialWriteMetric
  split
  · exact ⟨PBuf.Ext.refl _, hc⟩
  · exact ⟨h0, hc⟩
  · rename_i first rest _
    dsimp only
    rw [observations_eq, obsLoop_eq]
    exact ⟨(h0.trans (PBuf.ext_pushRaw _ _)).trans (PBuf.ext_pushRaw _ _), (PBuf.ext_pushRaw _ _).wf hc.clear⟩

/-- an interrupted `Values` loop leaves `counts_buf` non-empty, but still starting with its prefix -/
theorem abortedCall_wf {cfg : Config} (c : Consts) {s : State} (h : s.WF cfg) (a : Aborted) :
    (abortedCall c s a).WF cfg := by
  unfold abortedCall
  have hw := foldl_applyItem_wf c a.mult a.items (w := Writer.start c s) h.startCall
  generalize a.items.foldl (applyItem c a.mult) (Writer.start c s) = w at *
  cases a.partialMetric with
  | none => exact hw
  | some p =>
    obtain ⟨name, yielded, dims⟩ := p
    simp only
    have h1 : (metricPreCheck c (validateName c w name).1 dims).st.WF cfg := by
      rw [(Frame.metricPreCheck c dims).st, (Frame.validateName c name).st]; exact hw
    generalize metricPreCheck c (validateName c w name).1 dims = w1 at *
    split
    · have h2 : (metricCheck c w1 name 0).st.WF cfg := by rw [(Frame.metricCheck c name _).st]; exact h1
      generalize metricCheck c w1 name 0 = w2 at *
      obtain ⟨e1, e2⟩ := partialWriteMetric_spec name w2.st.fieldsBuf h2.c yielded a.mult
      exact ⟨h2.sf, e1.wf h2.f, h2.m, h2.d, e2, h2.decl⟩
    · have h2 : (metricCheck c w1 name (dimEntryFor c w1 (dimKeyOf dims)).index).st.WF cfg := by
        rw [(Frame.metricCheck c name _).st]; exact h1
      generalize metricCheck c w1 name (dimEntryFor c w1 (dimKeyOf dims)).index = w2 at *
      obtain ⟨-, e2⟩ := partialWriteMetric_spec name (dimEntryFor c w1 (dimKeyOf dims)).fieldsBuf h2.c yielded a.mult
      exact ⟨h2.sf, h2.f, h2.m, h2.d, e2, h2.decl⟩

theorem PBuf.clone_eq (b : PBuf) : b.clone = b := rfl

theorem DimEntry.clone_eq (e : DimEntry) : e.clone = e := rfl

theorem State.clone_eq (s : State) : s.clone = s := by
  cases s
  simp only [State.clone, PBuf.clone_eq, State.mk.injEq, and_true]
  have : DimEntry.clone = id := funext DimEntry.clone_eq
  rw [this, List.map_id]

/-- the states a formatter built from `cfg` can be in: the freshly built one; after any call on a
formatter in a reachable state; the state of a formatter obtained by `Clone` (or moved into
`with_sampling` / a `FormatExt` wrapper, which keep the very same state) from one in a reachable state;
and the state a panicking entry (contained by the caller) leaves a formatter in -/
inductive Reachable (cfg : Config) : State → Prop where
  | fresh : Reachable cfg (State.fresh cfg)
  | step {s : State} (call : Call) : Reachable cfg s → Reachable cfg (format (Consts.ofConfig cfg) s call).1
  | clone {s : State} : Reachable cfg s → Reachable cfg s.clone
  | abort {s : State} (a : Aborted) : Reachable cfg s → Reachable cfg (abortedCall (Consts.ofConfig cfg) s a)

theorem Reachable.wf {cfg : Config} {s : State} (h : Reachable cfg s) : s.WF cfg := by
  induction h with
  | fresh => exact State.WF.fresh cfg
  | step call _ ih => exact format_wf _ ih call
  | clone _ ih => rw [State.clone_eq]; exact ih
  | abort a _ ih => exact abortedCall_wf _ ih a

/-- the result of a call depends on the state only through the fixed buffer prefixes -/
theorem format_of_wf {cfg : Config} (c : Consts) {s : State} (h : s.WF cfg) (call : Call) :
    (format c s call).2 = (format c (State.fresh cfg) call).2 := by
  unfold format
  split
  · rfl
  · unfold formatWithMultiplicity
    have hstart : Writer.start c s = (Writer.start c (State.fresh cfg)).withCD s.countsBuf s.dimensionsBuf := by
      unfold Writer.start Writer.withCD
      simp only [h.startCall_eq, (State.WF.fresh cfg).startCall_eq]
    rw [hstart]
    have hf : (Writer.start c (State.fresh cfg)).st.WF cfg := (State.WF.fresh cfg).startCall
    obtain ⟨cb', -, heq⟩ := foldl_applyItem_commutes cfg c call.mult call.items
      (Writer.start c (State.fresh cfg)) s.countsBuf s.dimensionsBuf h.c hf
    have heq' : call.items.foldl (applyItem c call.mult)
        ((Writer.start c (State.fresh cfg)).withCD s.countsBuf s.dimensionsBuf) =
        (call.items.foldl (applyItem c call.mult) (Writer.start c (State.fresh cfg))).withCD cb' s.dimensionsBuf := heq
    rw [heq']
    exact finish_withCD cfg c _ cb' s.dimensionsBuf (foldl_applyItem_wf c call.mult call.items hf).d h.d _ _

/-- **C14.** For every configuration, every state reachable by any sequence of `format` /
`format_with_sample_rate` calls (accepted, rejected for any validation defect, split, sampled with
any multiplicity, invalid rate, I/O failure after any number of bytes) and every call: the result
(accept / validation errors / I/O error) and the bytes handed to the writer are exactly those of a
freshly built formatter with the same configuration. -/
theorem c14_history_independent (cfg : Config) {s : State} (h : Reachable cfg s) (call : Call) :
    (format (Consts.ofConfig cfg) s call).2 = (format (Consts.ofConfig cfg) (State.fresh cfg) call).2 :=
  format_of_wf _ h.wf call


/-- the observables of a sequence of calls on one formatter -/
def runCalls (c : Consts) : State → List Call → List (Result × Out)
  | _, [] => []
  | s, call :: rest => (format c s call).2 :: runCalls c (format c s call).1 rest

theorem runCalls_of_reachable (cfg : Config) {s : State} (h : Reachable cfg s) (calls : List Call) :
    runCalls (Consts.ofConfig cfg) s calls =
      calls.map fun call => (format (Consts.ofConfig cfg) (State.fresh cfg) call).2 := by
  induction calls generalizing s with
  | nil => rfl
  | cons call rest ih =>
    simp only [runCalls, List.map_cons]
    rw [c14_history_independent cfg h call, ih (Reachable.step call h)]

/-- **C14, sequence form** (what the harness observes): formatting any sequence of entries on one
formatter yields, at every position, exactly what a fresh formatter yields for that entry alone. -/
theorem c14_sequence (cfg : Config) (calls : List Call) :
    runCalls (Consts.ofConfig cfg) (State.fresh cfg) calls =
      calls.map fun call => (format (Consts.ofConfig cfg) (State.fresh cfg) call).2 :=
  runCalls_of_reachable cfg Reachable.fresh calls

/-- what `runPool` must produce: every call on an existing formatter yields the fresh formatter's
observable; `n` is the current size of the pool -/
def specPool (cfg : Config) : Nat → List PoolOp → List (Result × Out)
  | _, [] => []
  | n, .call k call :: rest =>
    if k < n then (format (Consts.ofConfig cfg) (State.fresh cfg) call).2 :: specPool cfg n rest
    else specPool cfg n rest
  | n, .clone k :: rest => if k < n then specPool cfg (n + 1) rest else specPool cfg n rest
  | n, .abort _ _ :: rest => specPool cfg n rest

theorem runPool_of_reachable (cfg : Config) (pool : List State) (hp : ∀ s ∈ pool, Reachable cfg s)
    (ops : List PoolOp) : runPool (Consts.ofConfig cfg) pool ops = specPool cfg pool.length ops := by
  induction ops generalizing pool with
  | nil => rfl
  | cons op rest ih =>
    have hset {k : Nat} {s : State} (hs : Reachable cfg s) : ∀ x ∈ pool.set k s, Reachable cfg x := fun x hx =>
      (List.mem_or_eq_of_mem_set hx).elim (hp x) (· ▸ hs)
    cases op with
    | call k call =>
      simp only [runPool, specPool]
      cases hk : pool[k]? with
      | none => rw [if_neg (Nat.not_lt.mpr (List.getElem?_eq_none_iff.mp hk))]; exact ih pool hp
      | some s =>
        have hs := hp s (List.mem_of_getElem? hk)
        dsimp only
        rw [if_pos (List.getElem?_eq_some_iff.mp hk).1, c14_history_independent cfg hs call,
          ih _ (hset (Reachable.step call hs)), List.length_set]
    | clone k =>
      simp only [runPool, specPool]
      cases hk : pool[k]? with
      | none => rw [if_neg (Nat.not_lt.mpr (List.getElem?_eq_none_iff.mp hk))]; exact ih pool hp
      | some s =>
        have hs := hp s (List.mem_of_getElem? hk)
        dsimp only
        rw [if_pos (List.getElem?_eq_some_iff.mp hk).1, ih (pool ++ [s.clone]) fun x hx =>
          (List.mem_append.mp hx).elim (hp x) fun h => List.mem_singleton.mp h ▸ Reachable.clone hs,
          List.length_append]
        rfl
    | abort k a =>
      simp only [runPool, specPool]
      cases hk : pool[k]? with
      | none => exact ih pool hp
      | some s =>
        dsimp only
        rw [ih _ (hset (Reachable.abort a (hp s (List.mem_of_getElem? hk)))), List.length_set]

/-- **C14 with clones and panicking entries** (what the harness observes): start with one freshly
built formatter; in any order format entries on any formatter of the pool, clone any formatter of the
pool (a clone of a used formatter, of a clone, of a never-used one …) and let entries panic mid-way on
any formatter (after any number of completed fields, after any number of observations of a
distribution). Every completed call, on the original or on any clone, yields exactly what a freshly
built formatter yields for that entry alone. -/
theorem c14_clones (cfg : Config) (ops : List PoolOp) :
    runPool (Consts.ofConfig cfg) [State.fresh cfg] ops = specPool cfg 1 ops :=
  runPool_of_reachable cfg [State.fresh cfg] (by
    intro s hs; simp only [List.mem_singleton] at hs; subst hs; exact Reachable.fresh) ops

/-- **C14, state form**: the invariant behind the theorem — after any history every buffer of the state
still starts with its fixed prefix, and its `prefix_len` is the length of that prefix. -/
theorem c14_prefixes_kept (cfg : Config) {s : State} (h : Reachable cfg s) : s.WF cfg := h.wf

/-! ### The iteration order of the dimension-set map only permutes the split records

The real `dimension_set_map` is a hash map: `values_mut()` visits the entries in an order that may
depend on capacity and therefore on history. The model visits them in insertion order. The lemmas
below show that, for a writer that does not fail, visiting the entries in any other order yields the
same records up to their order (and the same decision about the "no-dimensions" record). -/

/-- the record written for one entry (`none`: "skip metric line with no metrics") -/
def entryLine (c : Consts) (ts sf : Bytes) (e : DimEntry) : Option Bytes :=
  if e.fieldsBuf.isEmpty then none
  else some [(finishEntryMetrics c ts e).buf, e.fieldsBuf.buf, sf].flatten

theorem finishDims_lines (c : Consts) (ts sf : Bytes) (dm : List DimEntry) (bytes0 : Bytes) (any : Bool) :
    (finishDims c ts sf dm ⟨none, bytes0, false⟩ any).2 =
      (⟨none, bytes0 ++ (dm.filterMap (entryLine c ts sf)).flatten, false⟩,
       any || !(dm.filterMap (entryLine c ts sf)).isEmpty) := by
  induction dm generalizing bytes0 any with
  | nil => simp [finishDims]
  | cons e rest ih =>
    simp only [finishDims, List.filterMap_cons, entryLine]
    cases e.fieldsBuf.isEmpty with
    | true => simp only [↓reduceIte, ih]
    | false =>
      simp only [Bool.false_eq_true, ↓reduceIte, Out.writeAll, ih]
      simp [List.append_assoc]

/-- the records written by `finish` (after validation passed) to a writer that never fails, as a list -/
def recordLines (c : Consts) (st : State) (dims : List Bytes) (ts : Bytes) : List Bytes :=
  let sf := st.stringFieldsBuf.buf ++ bytes! "}\n"
  let split := st.dimMap.filterMap (entryLine c ts sf)
  if split.isEmpty || !st.fieldsBuf.isEmpty then
    split ++ [(finishGlobal c
      { st with declBuf := (st.declBuf.pushRaw c.logGroupTs).pushRaw ts,
                stringFieldsBuf := st.stringFieldsBuf.pushRaw (bytes! "}\n") } dims ⟨none, [], false⟩).2.2.bytes]
  else split

theorem finishGlobal_bytes (c : Consts) (st : State) (dims : List Bytes) (b : Bytes) :
    (finishGlobal c st dims ⟨none, b, false⟩).2 =
      (.ok, ⟨none, b ++ (finishGlobal c st dims ⟨none, [], false⟩).2.2.bytes, false⟩) := by
  unfold finishGlobal
  simp [Out.writeAll]

theorem finishGlobal_dimMap (c : Consts) (st : State) (dm : List DimEntry) (dims : List Bytes) (o : Out) :
    (finishGlobal c { st with dimMap := dm } dims o).2 = (finishGlobal c st dims o).2 := rfl

theorem finishWrite_recordLines (c : Consts) (st : State) (dims : List Bytes) (ts : Bytes) :
    (finishWrite c st dims ts ⟨none, [], false⟩).2 =
      (.ok, ⟨none, (recordLines c st dims ts).flatten, false⟩) := by
  unfold finishWrite recordLines
  simp only
  have h := finishDims_lines c ts (st.stringFieldsBuf.pushRaw (bytes! "}\n")).buf st.dimMap [] false
  generalize finishDims c ts (st.stringFieldsBuf.pushRaw (bytes! "}\n")).buf st.dimMap ⟨none, [], false⟩ false = r at h
  obtain ⟨dm', o1, any⟩ := r
  cases h
  have hsf : (st.stringFieldsBuf.pushRaw (bytes! "}\n")).buf = st.stringFieldsBuf.buf ++ bytes! "}\n" := rfl
  simp only [hsf, Bool.false_eq_true, ↓reduceIte, Bool.false_or, List.nil_append, Bool.not_not]
  split
  · rw [finishGlobal_bytes]
    simp only [List.flatten_append, List.flatten_cons, List.flatten_nil, List.append_nil]
    rfl
  · rfl

/-- **C14, iteration order.** If the dimension-set map is visited in another order (any permutation
of its entries), the records written to a writer that never fails (`recordLines`: by `finishWrite_recordLines` their concatenation is
what `finishWrite` hands to such a writer) are the same up to their order, and the result is the same. -/
theorem c14_map_order_irrelevant (c : Consts) (st : State) (dm' : List DimEntry) (hp : dm'.Perm st.dimMap)
    (dims : List Bytes) (ts : Bytes) :
    (recordLines c { st with dimMap := dm' } dims ts).Perm (recordLines c st dims ts) ∧
    (finishWrite c { st with dimMap := dm' } dims ts ⟨none, [], false⟩).2.1 =
      (finishWrite c st dims ts ⟨none, [], false⟩).2.1 := by
  refine ⟨?_, by rw [finishWrite_recordLines, finishWrite_recordLines]⟩
  unfold recordLines
  simp only
  have hperm := hp.filterMap (entryLine c ts (st.stringFieldsBuf.buf ++ bytes! "}\n"))
  have hemp : (dm'.filterMap (entryLine c ts (st.stringFieldsBuf.buf ++ bytes! "}\n"))).isEmpty =
      (st.dimMap.filterMap (entryLine c ts (st.stringFieldsBuf.buf ++ bytes! "}\n"))).isEmpty := by
    have hl := hperm.length_eq
    generalize dm'.filterMap (entryLine c ts (st.stringFieldsBuf.buf ++ bytes! "}\n")) = l1 at *
    generalize st.dimMap.filterMap (entryLine c ts (st.stringFieldsBuf.buf ++ bytes! "}\n")) = l2 at *
    cases l1 <;> cases l2 <;> simp_all
  rw [hemp]
  split
  · exact hperm.append_right _
  · exact hperm

def exCfg : Config :=
  { ns0 := bytes! "Ns", moreNs := [bytes! "N2"], defaultDims := [[bytes! "Op"]], logGroup := none,
    allowIgnored := false, extraDirectives := [], validation := ⟨false, false, false⟩ }

/-- a split entry: one string (needing an escape), a distribution with NaN first and last, a metric with dimensions -/
def exSplit : Call :=
  { items := [.timestamp 1500, .allowSplit, .value (bytes! "Op") (.str (bytes! "a\"b")),
      .value (bytes! "M") (.metric [.floating none, .unsigned 3, .repeated (some (bytes! "2.0")) 4, .floating none]
        none [] .none),
      .value (bytes! "D") (.metric [.unsigned 7] (some (bytes! "Count")) [(bytes! "k", bytes! "v")] .highRes)],
    mult := some 2, badRate := false, nowMs := 0, ioBudget := none }

/-- an entry rejected for a duplicate field and a missing dimension -/
def exBad : Call :=
  { items := [.value (bytes! "M") (.metric [.unsigned 1] none [] .none),
      .value (bytes! "M") (.metric [.unsigned 2] none [] .none)],
    mult := none, badRate := false, nowMs := 0, ioBudget := none }

/-- the hypotheses are met non-trivially: after a split entry the reachable state is not the fresh
one (its map has an entry), the entry wrote two records, and the rejected entry reports both defects. -/
example :
    (format (Consts.ofConfig exCfg) (State.fresh exCfg) exSplit).1 ≠ State.fresh exCfg ∧
    (format (Consts.ofConfig exCfg) (State.fresh exCfg) exSplit).1.dimMap.length = 1 ∧
    (format (Consts.ofConfig exCfg) (State.fresh exCfg) exSplit).2.1 = .ok ∧
    ((format (Consts.ofConfig exCfg) (State.fresh exCfg) exSplit).2.2.bytes.filter (· = 10)).length = 2 ∧
    (format (Consts.ofConfig exCfg) (format (Consts.ofConfig exCfg) (State.fresh exCfg) exSplit).1 exBad).2.1 =
      .validation [.duplicateField, .missingDimension] := by
  decide +kernel

/-- an entry whose distribution iterator panics after three observations leaves `counts_buf` holding
`],"Counts":[1,1,1` — NOT its bare prefix: the only thing between that residue and the next record is
the `counts.clear()` *before* use in `write_metric_value` (`writeValues_eq`); the call after it is
nevertheless exactly the fresh formatter's (instance of `c14_history_independent`, evaluated). -/
example :
    (abortedCall (Consts.ofConfig exCfg) (State.fresh exCfg)
      { items := [.timestamp 1], partialMetric := some (bytes! "M", [.unsigned 5, .unsigned 6, .unsigned 7], []),
        mult := none }).countsBuf.buf = bytes! "],\"Counts\":[1,1,1" ∧
    (format (Consts.ofConfig exCfg) (abortedCall (Consts.ofConfig exCfg) (State.fresh exCfg)
      { items := [.timestamp 1], partialMetric := some (bytes! "M", [.unsigned 5, .unsigned 6, .unsigned 7], []),
        mult := none }) exSplit).2 = (format (Consts.ofConfig exCfg) (State.fresh exCfg) exSplit).2 := by
  decide +kernel

/-- a clone must copy `prefix_len`: the wrong `Clone` that rebuilds every buffer with
`from_prefix(whole buffer)` (`State.cloneAsPrefix`) is NOT history independent — a clone taken after
one accepted entry prepends that entry's leftovers to what it writes; a clone of a never-used
formatter is fine, which is why only sequences "use, clone, use the clone" expose it. -/
example :
    (format (Consts.ofConfig exCfg) (format (Consts.ofConfig exCfg) (State.fresh exCfg) exSplit).1.cloneAsPrefix exSplit).2 ≠
      (format (Consts.ofConfig exCfg) (State.fresh exCfg) exSplit).2 ∧
    (format (Consts.ofConfig exCfg) (State.fresh exCfg).cloneAsPrefix exSplit).2 =
      (format (Consts.ofConfig exCfg) (State.fresh exCfg) exSplit).2 ∧
    ¬ (format (Consts.ofConfig exCfg) (State.fresh exCfg) exSplit).1.cloneAsPrefix.WF exCfg := by
  refine ⟨by decide +kernel, by decide +kernel, ?_⟩
  intro h
  have := h.f.1
  revert this
  decide +kernel

end Emf

#print axioms Emf.c14_history_independent
#print axioms Emf.c14_clones
#print axioms Emf.c14_sequence
#print axioms Emf.c14_prefixes_kept
#print axioms Emf.c14_map_order_irrelevant
