import Model.Vectored
/-!
# C16 — partial writes and I/O errors never tear, duplicate or omit bytes

Theorems about `Vectored.writeAllVectored` (model of `buf.rs::write_all_vectored` +
`advance_slices`), for every list of buffers and every writer script (unbounded).
The sink-level half of C16 (errors are local to one entry) is in `Props/C16Sink.lean`.
-/
namespace Vectored

def HeadNonempty : List Bytes → Prop
  | [] => True
  | f :: _ => f ≠ []

theorem advance_some {sl : List Bytes} {n : Nat} {sl' : List Bytes} (h : advance sl n = some sl') :
    sl'.flatten = sl.flatten.drop n ∧ HeadNonempty sl' := by
  fun_induction advance sl n generalizing sl' with
  | case1 => cases h; exact ⟨rfl, trivial⟩
  | case2 => cases h
  | case3 first rest n hle ih =>
    refine ⟨?_, (ih h).2⟩
    rw [(ih h).1, List.flatten_cons, List.drop_append, List.drop_eq_nil_of_le hle, List.nil_append]
  | case4 first rest n hgt =>
    cases h
    exact ⟨by rw [List.flatten_cons, List.flatten_cons, List.drop_append_of_le_length (by omega)],
      fun hnil => hgt (List.drop_eq_nil_iff.mp hnil)⟩

/-- the final `assert_eq!(remaining, 0)` fails exactly when more is claimed than there is -/
theorem advance_none {sl : List Bytes} {n : Nat} : advance sl n = none ↔ sl.flatten.length < n := by
  fun_induction advance sl n with
  | case1 | case2 => simp
  | case3 first rest n hle ih => rw [ih, List.flatten_cons, List.length_append]; omega
  | case4 first rest n hgt => simp only [List.flatten_cons, List.length_append, reduceCtorEq, false_iff]; omega

theorem writeAllVectored_eq (bufs : List Bytes) :
    ∃ sl, sl.flatten = bufs.flatten ∧ HeadNonempty sl ∧
      ∀ script, writeAllVectored bufs script = loop script sl [] 0 [] := by
  cases h : advance bufs 0 with
  | none => exact absurd (advance_none.mp h) (Nat.not_lt_zero _)
  | some sl => exact ⟨sl, (advance_some h).1, (advance_some h).2, fun _ => by simp only [writeAllVectored, h]⟩

def PrefixOf (bytes acc : Bytes) (o : Outcome) : Prop :=
  ∃ rest, bytes = acc ++ rest ∧ (o = .ok → rest = []) ∧ (o ≠ .ok → o ≠ .panic → rest ≠ [])

namespace PrefixOf

theorem all (bytes : Bytes) {o : Outcome} (ho : o = .ok ∨ o = .panic) : PrefixOf bytes bytes o :=
  ⟨[], (List.append_nil _).symm, fun _ => rfl, fun h1 h2 => (ho.elim h1 h2).elim⟩

theorem short (acc : Bytes) {rest : Bytes} {o : Outcome} (hr : rest ≠ []) (ho : o ≠ .ok) :
    PrefixOf (acc ++ rest) acc o :=
  ⟨rest, rfl, fun h => absurd h ho, fun _ _ => hr⟩

theorem eq_of_ok {bytes acc : Bytes} (h : PrefixOf bytes acc .ok) : acc = bytes := by
  obtain ⟨rest, rfl, hok, -⟩ := h
  rw [hok rfl, List.append_nil]

theorem append_left {bytes acc : Bytes} {o : Outcome} (done : Bytes) (h : PrefixOf bytes acc o) :
    PrefixOf (done ++ bytes) (done ++ acc) o := by
  obtain ⟨rest, rfl, h⟩ := h
  exact ⟨rest, (List.append_assoc ..).symm, h⟩

theorem append_right {bytes acc : Bytes} {o : Outcome} (more : Bytes) (h : PrefixOf bytes acc o)
    (ho : o ≠ .ok) : PrefixOf (bytes ++ more) acc o := by
  obtain ⟨rest, rfl, -, hnok⟩ := h
  exact ⟨rest ++ more, List.append_assoc .., fun h => absurd h ho,
    fun h1 h2 h => hnok h1 h2 (List.append_eq_nil_iff.mp h).1⟩

theorem take {bytes acc : Bytes} {o : Outcome} (h : PrefixOf bytes acc o) :
    ∃ k, k ≤ bytes.length ∧ acc = bytes.take k ∧
      (o = .ok → k = bytes.length) ∧ (o ≠ .ok → o ≠ .panic → k < bytes.length) := by
  obtain ⟨rest, rfl, hok, hnok⟩ := h
  refine ⟨acc.length, by simp, by simp, fun h => by simp [hok h], fun h1 h2 => ?_⟩
  have := List.length_pos_iff.mpr (hnok h1 h2)
  rw [List.length_append]; omega

end PrefixOf

theorem loop_spec (script : List Resp) (sl : List Bytes) (acc : Bytes) (calls : Nat)
    (off : List (List Bytes)) (hw : HeadNonempty sl) :
    PrefixOf (acc ++ sl.flatten) (loop script sl acc calls off).accepted
      (loop script sl acc calls off).outcome := by
  fun_induction loop script sl acc calls off with
  | case1 => exact (List.append_nil _).symm ▸ .all _ (.inl rfl)
  | case4 => exact .all _ (.inr rfl)
  | case5 n script s ss acc calls off sl' hsome ih =>
    have := ih (advance_some hsome).2
    rwa [(advance_some hsome).1, List.append_assoc, List.take_append_drop] at this
  | case6 _ _ _ _ _ _ ih => exact ih hw
  | _ =>
    -- `WriteZero`, a hard error or the end of the script: nothing more accepted, something left
    exact .short _ (fun h => hw (List.append_eq_nil_iff.mp h).1) nofun

theorem writeAllVectored_prefix (bufs : List Bytes) (script : List Resp) :
    PrefixOf bufs.flatten (writeAllVectored bufs script).accepted (writeAllVectored bufs script).outcome := by
  obtain ⟨sl, hfl, hw, h⟩ := writeAllVectored_eq bufs
  rw [h, ← hfl]
  exact loop_spec script sl [] 0 [] hw

/-- **C16 (byte level), full strength.** For every list of buffers and every behaviour of the
underlying writer: the bytes the writer accepted are a prefix `take k` of the concatenation of the
buffers (nothing duplicated, omitted or reordered); the call returns `Ok` only if the writer
accepted everything; and if it returns an error (`WriteZero`, the writer's hard error — or the
script ended) then strictly less than everything was accepted, so an `Err` never hides a complete
record. The outcome `panic` (the `assert_eq!` of `advance_slices` failed) is exempt from the last
clause; when it arises is not part of this statement (`advance_none`: only when the writer claims
more than it was offered). -/
theorem c16_prefix (bufs : List Bytes) (script : List Resp) :
    ∃ k, k ≤ bufs.flatten.length ∧
      (writeAllVectored bufs script).accepted = bufs.flatten.take k ∧
      ((writeAllVectored bufs script).outcome = .ok → k = bufs.flatten.length) ∧
      ((writeAllVectored bufs script).outcome ≠ .ok →
        (writeAllVectored bufs script).outcome ≠ .panic → k < bufs.flatten.length) :=
  (writeAllVectored_prefix bufs script).take

/-- Corollary: success means exactly the record's bytes were accepted. -/
theorem c16_ok_all (bufs : List Bytes) (script : List Resp)
    (h : (writeAllVectored bufs script).outcome = .ok) :
    (writeAllVectored bufs script).accepted = bufs.flatten :=
  (h ▸ writeAllVectored_prefix bufs script).eq_of_ok

theorem offered_snoc {off : List (List Bytes)} {s : Bytes} {ss : List Bytes}
    (hoff : ∀ o ∈ off, o ≠ [] ∧ HeadNonempty o) (hw : HeadNonempty (s :: ss)) :
    ∀ o ∈ off ++ [s :: ss], o ≠ [] ∧ HeadNonempty o :=
  List.forall_mem_append.mpr ⟨hoff, by simpa using hw⟩

theorem loop_offered (script : List Resp) (sl : List Bytes) (acc : Bytes) (calls : Nat)
    (off : List (List Bytes)) (hw : HeadNonempty sl)
    (hoff : ∀ o ∈ off, o ≠ [] ∧ HeadNonempty o) :
    ∀ o ∈ (loop script sl acc calls off).offered, o ≠ [] ∧ HeadNonempty o := by
  fun_induction loop script sl acc calls off with
  | case1 | case2 => exact hoff
  | case5 _ _ _ _ _ _ _ _ hsome ih => exact ih (advance_some hsome).2 (offered_snoc hoff hw)
  | case6 _ _ _ _ _ _ ih => exact ih hw (offered_snoc hoff hw)
  | _ => exact offered_snoc hoff hw

/-- **C16: no zero-length writes.** Every `write_vectored` call is offered a non-empty list of
slices whose first slice is non-empty (so `Ok(0)` from the writer really means "write zero"). -/
theorem c16_never_offers_empty (bufs : List Bytes) (script : List Resp) :
    ∀ o ∈ (writeAllVectored bufs script).offered, o ≠ [] ∧ HeadNonempty o := by
  obtain ⟨sl, -, hw, h⟩ := writeAllVectored_eq bufs
  rw [h]
  exact loop_offered script sl [] 0 [] hw (by simp)

theorem loop_interrupted_irrelevant (script : List Resp) (sl : List Bytes) (acc : Bytes)
    (c1 c2 : Nat) (o1 o2 : List (List Bytes)) :
    (loop (script.filter (· ≠ .interrupted)) sl acc c1 o1).accepted = (loop script sl acc c2 o2).accepted ∧
    (loop (script.filter (· ≠ .interrupted)) sl acc c1 o1).outcome = (loop script sl acc c2 o2).outcome := by
  fun_induction loop script sl acc c2 o2 generalizing c1 o1 with
  | case5 _ _ _ _ _ _ _ _ hsome ih => simpa [loop, hsome] using ih _ _
  | case6 _ _ _ _ _ _ ih => simpa [loop] using ih _ _
  | _ => simp [loop, *]

/-- **C16: `Interrupted` is retried without effect.** Deleting every `Interrupted` response from the
writer's script changes neither the accepted bytes nor the result. -/
theorem c16_interrupted_transparent (bufs : List Bytes) (script : List Resp) :
    (writeAllVectored bufs (script.filter (· ≠ .interrupted))).accepted = (writeAllVectored bufs script).accepted ∧
    (writeAllVectored bufs (script.filter (· ≠ .interrupted))).outcome = (writeAllVectored bufs script).outcome := by
  obtain ⟨sl, -, -, h⟩ := writeAllVectored_eq bufs
  rw [h, h]
  exact loop_interrupted_irrelevant script sl [] 0 0 [] []

/-- Non-vacuity: a 3-buffer record (one empty), a writer that accepts 2 bytes, is interrupted,
accepts 3, then fails: 5 of 8 bytes accepted, error surfaced, two non-trivial partial writes. -/
example : (writeAllVectored [[0, 1, 2], [], [3, 4, 5, 6, 7]] [.ok 2, .interrupted, .ok 3, .err]).accepted
      = [0, 1, 2, 3, 4] ∧
    (writeAllVectored [[0, 1, 2], [], [3, 4, 5, 6, 7]] [.ok 2, .interrupted, .ok 3, .err]).outcome = .ioErr := by
  decide

end Vectored

#print axioms Vectored.c16_prefix
#print axioms Vectored.c16_ok_all
#print axioms Vectored.c16_never_offers_empty
#print axioms Vectored.c16_interrupted_transparent
