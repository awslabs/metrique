import Model.EmfSpec
import Props.C03
import Props.C08Lemmas
/-!
The validation state machine with all checks on (`run … allOn`), for entries without `AllowUnroutableEntries`
and without values that report an error of their own: such an entry is accepted iff it is `Good` (none of the
defects that are detected while the entry is written) and every declared dimension has a string value
(`validate_nil_iff`, from `run_spec` for the run and `sweep_spec` for the sweep of `finish`).

The induction runs over the entry from the right. `good_snoc` says what `Good` asks of one more item (`ItemOk`);
`Inv` says what the state is after an error-free prefix, the name map as a function (`specKind`) of the prefix;
each `step_*` shows for one kind of item that the step records no error iff the item is `ItemOk`, and that it
re-establishes `Inv`.
-/
namespace EmfSpec

variable {F : Type}

theorem snoc_induction {α : Type} {P : List α → Prop} (h0 : P []) (hs : ∀ l x, P l → P (l ++ [x])) :
    ∀ l, P l := by
  have : ∀ l : List α, P l.reverse := by
    intro l
    induction l with
    | nil => exact h0
    | cons x l ih => rw [List.reverse_cons]; exact hs _ _ ih
  intro l
  have := this l.reverse
  rwa [List.reverse_reverse] at this

theorem length_append_le_one {α : Type} (l l' : List α) :
    (l ++ l').length ≤ 1 ↔ l.length ≤ 1 ∧ l'.length ≤ 1 ∧ (l' = [] ∨ l = []) := by
  cases l <;> cases l' <;> simp <;> omega

theorem metricItems_append (e e' : Entry F) : metricItems (e ++ e') = metricItems e ++ metricItems e' := by
  induction e with
  | nil => rfl
  | cons x e ih => rcases x with _|_|_|_|_|⟨_, _|_|_|_⟩ <;> simp [metricItems, ih]

theorem strItems_append (e e' : Entry F) : strItems (e ++ e') = strItems e ++ strItems e' := by
  induction e with
  | nil => rfl
  | cons x e ih => rcases x with _|_|_|_|_|⟨_, _|_|_|_⟩ <;> simp [strItems, ih]

theorem timestamps_append (e e' : Entry F) : timestamps (e ++ e') = timestamps e ++ timestamps e' := by
  induction e with
  | nil => rfl
  | cons x e ih => cases x <;> simp [timestamps, ih]

theorem entryDimsItems_append (e e' : Entry F) :
    entryDimsItems (e ++ e') = entryDimsItems e ++ entryDimsItems e' := by
  induction e with
  | nil => rfl
  | cons x e ih => cases x <;> simp [entryDimsItems, ih]

theorem valueNames_append (e e' : Entry F) : valueNames (e ++ e') = valueNames e ++ valueNames e' := by
  induction e with
  | nil => rfl
  | cons x e ih => cases x <;> simp [valueNames, ih]

def strNames (e : Entry F) : List Str := (strItems e).map (·.1)

theorem strNames_append (e e' : Entry F) : strNames (e ++ e') = strNames e ++ strNames e' := by
  simp [strNames, strItems_append]

def metricsNamed (n : Str) (e : Entry F) : List (Metric F) :=
  (metricItems e).filterMap fun p => if p.1 = n then some p.2 else none

theorem metricsNamed_append (n : Str) (e e' : Entry F) :
    metricsNamed n (e ++ e') = metricsNamed n e ++ metricsNamed n e' := by
  simp [metricsNamed, metricItems_append]

theorem mem_metricsNamed (n : Str) (e : Entry F) (m : Metric F) :
    m ∈ metricsNamed n e ↔ (n, m) ∈ metricItems e := by
  simp only [metricsNamed, List.mem_filterMap, Option.ite_none_right_eq_some, Option.some.injEq, Prod.exists]
  exact ⟨fun ⟨a, b, h, ha, hb⟩ => ha ▸ hb ▸ h, fun h => ⟨n, m, h, rfl, rfl⟩⟩

theorem declaredDims_append (cfg : Config) (e e' : Entry F) (n : Str) :
    n ∈ declaredDims cfg (e ++ e') ↔ n ∈ declaredDims cfg e ∨ n ∈ (entryDimsItems e').flatten.flatten := by
  simp [declaredDims, entryDimsItems_append, or_assoc]

def hasSplit (e : Entry F) : Bool := e.any fun | .allowSplit => true | _ => false

def routedAny (cfg : Config) (e : Entry F) : Bool := (metricItems e).any fun p => (routeOf cfg p.2).isSome

theorem routedAny_append (cfg : Config) (e e' : Entry F) :
    routedAny cfg (e ++ e') = (routedAny cfg e || routedAny cfg e') := by
  simp [routedAny, metricItems_append]

theorem routeOf_some (cfg : Config) (m : Metric F) (k : Key) (h : routeOf cfg m = some k) :
    (cfg.allowIgnored || m.dims.isEmpty) = false ∧ k = sortKey m.dims := by
  unfold routeOf at h
  split at h
  · cases h
  · exact ⟨Bool.eq_false_iff.mpr ‹_›, (Option.some.inj h).symm⟩

theorem routeOf_none (cfg : Config) (m : Metric F) (h : routeOf cfg m = none) :
    (cfg.allowIgnored || m.dims.isEmpty) = true := by
  unfold routeOf at h
  split at h
  · assumption
  · cases h

theorem dimsWithoutSplit_split (cfg : Config) (e : Entry F) : dimsWithoutSplit cfg true e = false := by
  induction e with
  | nil => rfl
  | cons x e ih => rcases x with _|_|_|_|_|⟨_, _|_|_|_⟩ <;> simp [dimsWithoutSplit, ih]

theorem dimsWithoutSplit_append (cfg : Config) (b : Bool) (e e' : Entry F) :
    dimsWithoutSplit cfg b (e ++ e') = (dimsWithoutSplit cfg b e || dimsWithoutSplit cfg (b || hasSplit e) e') := by
  induction e generalizing b with
  | nil => simp [dimsWithoutSplit, hasSplit]
  | cons x e ih =>
    rcases x with _|_|_|_|_|⟨_, _|_|_|_⟩ <;> simp [dimsWithoutSplit, hasSplit, ih, Bool.or_assoc]

theorem lateDims_append (cfg : Config) (b : Bool) (e e' : Entry F) :
    lateDims cfg b (e ++ e') = (lateDims cfg b e || lateDims cfg (b || routedAny cfg e) e') := by
  induction e generalizing b with
  | nil => simp [lateDims, routedAny, metricItems]
  | cons x e ih =>
    rcases x with _|_|_|_|_|⟨_, _|_|_|_⟩ <;> simp [lateDims, routedAny, metricItems, ih, Bool.or_assoc]

theorem slots_append (cfg : Config) (e e' : Entry F) : slots cfg (e ++ e') = slots cfg e ++ slots cfg e' := by
  induction e with
  | nil => rfl
  | cons x e ih => rcases x with _|_|_|_|_|⟨_, _|_|_|_⟩ <;> simp [slots, ih]

theorem noConflict_append (l l' : List Slot) :
    noConflict (l ++ l') = true ↔
      noConflict l = true ∧ noConflict l' = true ∧ ∀ t ∈ l, ∀ s ∈ l', conflict t s = false := by
  induction l with
  | nil => simp [noConflict]
  | cons a l ih => simp [noConflict, ih, List.all_append]; grind

theorem slots_forall (cfg : Config) (e : Entry F) (P : Slot → Prop) :
    (∀ t ∈ slots cfg e, P t) ↔
      (∀ n ∈ strNames e, P (.str n)) ∧ ∀ p ∈ metricItems e, P (.met p.1 (routeOf cfg p.2)) := by
  induction e with
  | nil => simp [slots, strNames, strItems, metricItems]
  | cons x e ih =>
    rcases x with _|_|_|_|_|⟨_, _|_|_|_⟩
    case value.str =>
      simpa only [slots, strNames, strItems, metricItems, List.map_cons, List.forall_mem_cons, and_assoc]
        using and_congr_right fun _ => ih
    case value.metric =>
      simp only [slots, metricItems, List.forall_mem_cons]
      exact (and_congr_right fun _ => ih).trans and_left_comm
    all_goals exact ih

theorem slots_all_str (cfg : Config) (e : Entry F) (n : Str) :
    (∀ t ∈ slots cfg e, conflict t (.str n) = false) ↔ n ∉ strNames e ∧ metricsNamed n e = [] := by
  simp [slots_forall, conflict, Slot.name, metricsNamed, List.filterMap_eq_nil_iff, List.forall_mem_ne']

theorem slots_all_met (cfg : Config) (e : Entry F) (n : Str) (r : Option Key) :
    (∀ t ∈ slots cfg e, conflict t (.met n r) = false) ↔
      n ∉ strNames e ∧ ∀ m' ∈ metricsNamed n e, routeOf cfg m' ≠ r := by
  simp only [slots_forall, conflict, Slot.name, mem_metricsNamed, beq_eq_false_iff_ne, ne_eq, List.forall_mem_ne',
    Bool.and_eq_false_imp, beq_iff_eq, Prod.forall]
  exact and_congr_right fun _ => ⟨fun h m' hm => h n m' hm rfl, fun h a b hab ha => h b (ha ▸ hab)⟩

theorem str_no_metric (cfg : Config) (e : Entry F) (n : Str) (hc : noConflict (slots cfg e) = true)
    (hn : n ∈ strNames e) : metricsNamed n e = [] := by
  induction e using snoc_induction with
  | h0 => rfl
  | hs e x ih =>
    rw [slots_append, noConflict_append] at hc
    rw [strNames_append, List.mem_append] at hn
    rw [metricsNamed_append, List.append_eq_nil_iff]
    rcases x with _|_|_|_|_|⟨n', _|m|_|_⟩
    case value.str =>
      refine ⟨?_, rfl⟩
      rcases hn with hn | hn
      · exact ih hc.1 hn
      · obtain rfl : n = n' := by simpa [strNames, strItems] using hn
        exact ((slots_all_str cfg e n).mp fun t ht => hc.2.2 t ht _ (List.mem_singleton.mpr rfl)).2
    case value.metric =>
      have hn : n ∈ strNames e := hn.resolve_right (by simp [strNames, strItems])
      refine ⟨ih hc.1 hn, ?_⟩
      by_cases h : n' = n
      · subst h
        exact absurd hn ((slots_all_met cfg e n' _).mp fun t ht => hc.2.2 t ht _ (List.mem_singleton.mpr rfl)).1
      · simp [metricsNamed, metricItems, h]
    all_goals exact ⟨ih hc.1 (hn.resolve_right (by simp [strNames, strItems])), rfl⟩

/-- the entry has none of the defects that are detected while it is written (all of `defective` except the
missing string value of a declared dimension, which `finish` detects) -/
def Good (cfg : Config) (e : Entry F) : Prop :=
  (timestamps e).length ≤ 1
  ∧ (∀ n ∈ valueNames e, n ≠ [] ∧ n ≠ awsName)
  ∧ noConflict (slots cfg e) = true
  ∧ (∀ p ∈ metricItems e, p.1 ∉ declaredDims cfg e)
  ∧ dimsWithoutSplit cfg false e = false
  ∧ (∀ s ∈ entryDimsItems e, s ≠ [])
  ∧ (entryDimsItems e).length ≤ 1
  ∧ lateDims cfg false e = false

theorem Good.names {cfg : Config} {e : Entry F} (g : Good cfg e) : ∀ n ∈ valueNames e, n ≠ [] ∧ n ≠ awsName := g.2.1
theorem Good.conf {cfg : Config} {e : Entry F} (g : Good cfg e) : noConflict (slots cfg e) = true := g.2.2.1
theorem Good.under {cfg : Config} {e : Entry F} (g : Good cfg e) : ∀ p ∈ metricItems e, p.1 ∉ declaredDims cfg e :=
  g.2.2.2.1

/-- what a continuation `e'` of a `Good` prefix `e` must satisfy for `e ++ e'` to be `Good`, clause by clause -/
def NewOk (cfg : Config) (e e' : Entry F) : Prop :=
  ((timestamps e').length ≤ 1 ∧ (timestamps e' = [] ∨ timestamps e = []))
  ∧ (∀ n ∈ valueNames e', n ≠ [] ∧ n ≠ awsName)
  ∧ (noConflict (slots cfg e') = true ∧ ∀ t ∈ slots cfg e, ∀ s ∈ slots cfg e', conflict t s = false)
  ∧ ((∀ p ∈ metricItems e', p.1 ∉ declaredDims cfg (e ++ e'))
    ∧ ∀ p ∈ metricItems e, p.1 ∉ (entryDimsItems e').flatten.flatten)
  ∧ dimsWithoutSplit cfg (hasSplit e) e' = false
  ∧ (∀ s ∈ entryDimsItems e', s ≠ [])
  ∧ ((entryDimsItems e').length ≤ 1 ∧ (entryDimsItems e' = [] ∨ entryDimsItems e = []))
  ∧ lateDims cfg (routedAny cfg e) e' = false

/-- each clause of `Good` splits by the append law of what it speaks of; the rest is reassociation -/
theorem good_append (cfg : Config) (e e' : Entry F) : Good cfg (e ++ e') ↔ Good cfg e ∧ NewOk cfg e e' := by
  simp only [Good, NewOk, timestamps_append, valueNames_append, slots_append, entryDimsItems_append,
    metricItems_append, dimsWithoutSplit_append, lateDims_append, length_append_le_one, List.forall_mem_append,
    noConflict_append, Bool.or_eq_false_iff, Bool.false_or, declaredDims_append, not_or, forall_and]
  exact Iff.of_eq (by ac_rfl)

/-- what an item `x` must satisfy for `e ++ [x]` to be `Good`, given that `e` is -/
def ItemOk (cfg : Config) (e : Entry F) : Item F → Prop
  | .timestamp _ => timestamps e = []
  | .entryDims sets =>
    (∀ p ∈ metricItems e, p.1 ∉ sets.flatten) ∧ sets ≠ [] ∧ entryDimsItems e = [] ∧ routedAny cfg e = false
  | .value n v =>
    (n ≠ [] ∧ n ≠ awsName) ∧
    match v with
    | .str _ => n ∉ strNames e ∧ metricsNamed n e = []
    | .metric m =>
      (n ∉ strNames e ∧ ∀ m' ∈ metricsNamed n e, routeOf cfg m' ≠ routeOf cfg m) ∧ n ∉ declaredDims cfg e
        ∧ (hasSplit e = false → routeOf cfg m = none)
    | _ => True
  | _ => True

theorem newOk_singleton (cfg : Config) (e : Entry F) (x : Item F) : NewOk cfg e [x] ↔ ItemOk cfg e x := by
  rcases x with _|_|_|_|_|⟨_, _|_|_|_⟩ <;>
    simp [NewOk, ItemOk, timestamps, valueNames, slots, noConflict, metricItems, entryDimsItems, dimsWithoutSplit,
      lateDims, slots_all_str, slots_all_met, declaredDims_append]

theorem good_snoc (cfg : Config) (e : Entry F) (x : Item F) : Good cfg (e ++ [x]) ↔ Good cfg e ∧ ItemOk cfg e x :=
  (good_append cfg e [x]).trans (and_congr_right fun _ => newOk_singleton cfg e x)

theorem get_set (m : VMap) (k n : Str) (v : Kind) :
    (m.set k v).get n = if k = n then some v else m.get n := by
  by_cases h : k = n <;> simp [VMap.get, VMap.set, h]

theorem get_insertUnfound (m : VMap) (d n : Str) :
    (insertUnfound m d).get n = if m.get n = none ∧ d = n then some .unfound else m.get n := by
  unfold insertUnfound
  by_cases hdn : d = n
  · subst hdn; cases h : m.get d <;> simp [h, get_set]
  · cases h : m.get d <;> simp [get_set, hdn]

theorem get_foldl_insertUnfound (ds : List Str) (m : VMap) (n : Str) :
    (ds.foldl insertUnfound m).get n = if m.get n = none ∧ n ∈ ds then some .unfound else m.get n := by
  induction ds generalizing m with
  | nil => simp
  | cons d ds ih =>
    rw [List.foldl_cons, ih, get_insertUnfound]
    by_cases h2 : d = n
    · subst h2; by_cases h1 : m.get d = none <;> simp [h1]
    · simp [h2, Ne.symm h2]

theorem get_none (m : VMap) (n : Str) : m.get n = none ↔ n ∉ m.map (·.1) := by
  simp only [VMap.get, Option.map_eq_none_iff, List.find?_eq_none, List.mem_map, not_exists, not_and]
  constructor
  · intro h x hx e
    have := h x hx
    simp [e] at this
  · intro h x hx
    have := h x hx
    simpa using this

theorem indexOfKey_append_mem (k : Key) (ks ks' : List Key) (h : k ∈ ks) :
    indexOfKey k (ks ++ ks') = indexOfKey k ks := by
  induction ks with
  | nil => cases h
  | cons x xs ih =>
    by_cases hx : x = k
    · simp [indexOfKey, hx]
    · simp [indexOfKey, hx, ih ((List.mem_cons.mp h).resolve_left (Ne.symm hx))]

theorem indexOfKey_lt (k : Key) (ks : List Key) (h : k ∈ ks) : indexOfKey k ks < ks.length := by
  induction ks with
  | nil => cases h
  | cons x xs ih =>
    by_cases hx : x = k
    · simp [indexOfKey, hx]
    · simpa [indexOfKey, hx] using ih ((List.mem_cons.mp h).resolve_left (Ne.symm hx))

theorem indexOfKey_inj (k k' : Key) (ks : List Key) (h : k ∈ ks) (h' : k' ∈ ks)
    (he : indexOfKey k ks = indexOfKey k' ks) : k = k' := by
  induction ks with
  | nil => cases h
  | cons x xs ih =>
    by_cases hx : x = k
    · subst hx
      by_cases hx' : x = k'
      · exact hx'
      · simp [indexOfKey, hx'] at he
    · by_cases hx' : x = k'
      · subst hx'; simp [indexOfKey, hx] at he
      · simp only [indexOfKey, hx, hx', if_false, Nat.add_right_cancel_iff] at he
        exact ih ((List.mem_cons.mp h).resolve_left (Ne.symm hx))
          ((List.mem_cons.mp h').resolve_left (Ne.symm hx')) he

theorem idxOf_inj (cfg : Config) (keys : List Key) (m m' : Metric F)
    (h : ∀ k, routeOf cfg m = some k → k ∈ keys) (h' : ∀ k, routeOf cfg m' = some k → k ∈ keys)
    (he : idxOf cfg keys m = idxOf cfg keys m') : routeOf cfg m = routeOf cfg m' := by
  unfold idxOf at he
  cases hr : routeOf cfg m <;> cases hr' : routeOf cfg m' <;> simp [hr, hr'] at he ⊢
  exact indexOfKey_inj _ _ keys (h _ hr) (h' _ hr') he

theorem idxOf_keysAfter (cfg : Config) (keys : List Key) (m m' : Metric F)
    (h : ∀ k, routeOf cfg m' = some k → k ∈ keys) : idxOf cfg (keysAfter cfg keys m) m' = idxOf cfg keys m' := by
  unfold idxOf keysAfter
  cases hr : routeOf cfg m' with
  | none => rfl
  | some k =>
    cases routeOf cfg m with
    | none => rfl
    | some k' => by_cases hk : k' ∈ keys <;> simp [hk, indexOfKey_append_mem _ _ _ (h k hr)]

theorem mem_keysAfter (cfg : Config) (keys : List Key) (m : Metric F) (k : Key) :
    k ∈ keysAfter cfg keys m ↔ k ∈ keys ∨ routeOf cfg m = some k := by
  unfold keysAfter
  cases routeOf cfg m with
  | none => simp
  | some k' =>
    by_cases hk : k' ∈ keys <;> simp [hk, eq_comm]
    rintro rfl; exact hk

/-- what the name map holds for `n` after an error-free prefix `e` -/
def specKind (cfg : Config) (keys : List Key) (e : Entry F) (n : Str) : Option Kind :=
  if n ∈ strNames e then some .string
  else if (metricsNamed n e).isEmpty then (if n ∈ declaredDims cfg e then some .unfound else none)
  else some (.metric ((metricsNamed n e).reverse.map (idxOf cfg keys)))

/-- the state after an error-free prefix `e`; `keys` holds the split routes of `e`'s metrics, in any order
that the machine produced -/
structure Inv (cfg : Config) (e : Entry F) (st : VState) : Prop where
  ts : st.tsSeen = !(timestamps e).isEmpty
  ds : st.dimsSet = !(entryDimsItems e).isEmpty
  sp : st.split = hasSplit e
  un : st.unroutable = false
  km : ∀ k, k ∈ st.keys ↔ ∃ p ∈ metricItems e, routeOf cfg p.2 = some k
  vm : ∀ n, st.vmap.get n = specKind cfg st.keys e n

theorem specKind_congr (cfg : Config) (keys : List Key) (e e' : Entry F) (n : Str)
    (h1 : strNames e' = strNames e) (h2 : metricsNamed n e' = metricsNamed n e)
    (h3 : n ∈ declaredDims cfg e' ↔ n ∈ declaredDims cfg e) : specKind cfg keys e' n = specKind cfg keys e n := by
  unfold specKind
  rw [h1, h2]
  simp only [h3]

theorem specKind_keys_congr (cfg : Config) (keys keys' : List Key) (e : Entry F) (n : Str)
    (h : ∀ p ∈ metricItems e, idxOf cfg keys' p.2 = idxOf cfg keys p.2) :
    specKind cfg keys' e n = specKind cfg keys e n := by
  unfold specKind
  rw [List.map_congr_left fun m hm => h (n, m) ((mem_metricsNamed n e m).mp (List.mem_reverse.mp hm))]

theorem specKind_entryDims (cfg : Config) (keys : List Key) (e : Entry F) (sets : List (List Str)) (n : Str) :
    specKind cfg keys (e ++ [.entryDims sets]) n =
      if specKind cfg keys e n = none ∧ n ∈ sets.flatten then some .unfound else specKind cfg keys e n := by
  have a : strNames (e ++ [.entryDims sets]) = strNames e := by simp [strNames, strItems_append, strItems]
  have b : metricsNamed n (e ++ [.entryDims sets]) = metricsNamed n e := by
    simp [metricsNamed, metricItems_append, metricItems]
  have c : n ∈ declaredDims cfg (e ++ [.entryDims sets]) ↔ n ∈ declaredDims cfg e ∨ n ∈ sets.flatten := by
    simp [declaredDims_append, entryDimsItems]
  unfold specKind
  rw [a, b]
  by_cases h1 : n ∈ strNames e
  · simp [h1]
  · cases h2 : (metricsNamed n e).isEmpty
    · simp [h1]
    · by_cases h3 : n ∈ declaredDims cfg e <;> by_cases h4 : n ∈ sets.flatten <;> simp [h1, h3, h4, c]

theorem specKind_str (cfg : Config) (keys : List Key) (e : Entry F) (n s k : Str) :
    specKind cfg keys (e ++ [.value n (.str s)]) k = if n = k then some .string else specKind cfg keys e k := by
  have a : strNames (e ++ [.value n (.str s)]) = strNames e ++ [n] := by simp [strNames, strItems_append, strItems]
  have b : metricsNamed k (e ++ [.value n (.str s)]) = metricsNamed k e := by
    simp [metricsNamed, metricItems_append, metricItems]
  have c : declaredDims cfg (e ++ [.value n (.str s)]) = declaredDims cfg e := by
    simp [declaredDims, entryDimsItems_append, entryDimsItems]
  unfold specKind
  rw [a, b, c]
  by_cases hk : n = k
  · simp [hk]
  · simp [hk, Ne.symm hk]

theorem specKind_metric (cfg : Config) (keys : List Key) (e : Entry F) (n k : Str) (m : Metric F)
    (h1 : n ∉ strNames e) :
    specKind cfg keys (e ++ [.value n (.metric m)]) k =
      if n = k then some (.metric (idxOf cfg keys m :: (metricsNamed n e).reverse.map (idxOf cfg keys)))
      else specKind cfg keys e k := by
  have a : strNames (e ++ [.value n (.metric m)]) = strNames e := by simp [strNames, strItems_append, strItems]
  have c : declaredDims cfg (e ++ [.value n (.metric m)]) = declaredDims cfg e := by
    simp [declaredDims, entryDimsItems_append, entryDimsItems]
  have b : metricsNamed k [.value n (.metric m)] = if n = k then [m] else [] := by
    simp only [metricsNamed, metricItems, List.filterMap_cons]; split <;> simp_all
  unfold specKind
  rw [a, c, metricsNamed_append, b]
  by_cases hk : n = k
  · subst hk; simp [h1]
  · simp [hk]

def isMetricOpt : Option Kind → Bool
  | some (.metric _) => true
  | _ => false

theorem isMetric_spec (cfg : Config) (keys : List Key) (e : Entry F) (n : Str) :
    isMetricOpt (specKind cfg keys e n) = (!decide (n ∈ strNames e) && !(metricsNamed n e).isEmpty) := by
  unfold specKind
  by_cases h1 : n ∈ strNames e
  · simp [h1, isMetricOpt]
  · cases h2 : (metricsNamed n e).isEmpty
    · simp [h1, isMetricOpt]
    · by_cases h3 : n ∈ declaredDims cfg e <;> simp [h1, h3, isMetricOpt]

theorem keys_nil_iff (cfg : Config) (e : Entry F) (st : VState) (hi : Inv cfg e st) :
    st.keys = [] ↔ routedAny cfg e = false := by
  simp only [List.eq_nil_iff_forall_not_mem, hi.km, routedAny, List.any_eq_false, Option.isSome_iff_exists,
    not_exists, not_and]
  exact ⟨fun h p hp k => h k p hp, fun h k p hp => h p hp k⟩

theorem dimsStep_vmap (sw : Switches) (st : VState) (d : Str) :
    (dimsStep sw st d).vmap = insertUnfound st.vmap d := by
  unfold dimsStep insertUnfound
  cases h : st.vmap.get d with
  | none => rfl
  | some k => cases k <;> simp only [] <;> split <;> rfl

theorem dimsStep_errs (st : VState) (d : Str) :
    (dimsStep allOn st d).errs = [] ↔ st.errs = [] ∧ isMetricOpt (st.vmap.get d) = false := by
  unfold dimsStep
  cases h : st.vmap.get d with
  | none => simp [isMetricOpt]
  | some k => cases k <;> simp [isMetricOpt, allOn]

theorem foldl_dimsStep_spec (ds : List Str) (st : VState) :
    ((ds.foldl (dimsStep allOn) st).errs = [] ↔ st.errs = [] ∧ ∀ d ∈ ds, isMetricOpt (st.vmap.get d) = false)
    ∧ (ds.foldl (dimsStep allOn) st).vmap = ds.foldl insertUnfound st.vmap := by
  induction ds generalizing st with
  | nil => simp
  | cons d ds ih =>
    have hm : ∀ n, isMetricOpt ((insertUnfound st.vmap d).get n) = isMetricOpt (st.vmap.get n) := by
      intro n
      rw [get_insertUnfound]
      split <;> simp_all [isMetricOpt]
    simp only [List.foldl_cons, ih, dimsStep_errs, dimsStep_vmap, hm, List.forall_mem_cons, and_assoc, and_self]

def StepOk (cfg : Config) (e : Entry F) (st : VState) (x : Item F) : Prop :=
  ((stepItem cfg allOn st x).errs = [] ↔ ItemOk cfg e x) ∧
  ((stepItem cfg allOn st x).errs = [] → Inv cfg (e ++ [x]) (stepItem cfg allOn st x))

theorem inv_snoc (cfg : Config) (e : Entry F) (x : Item F) (st st' : VState) (hi : Inv cfg e st)
    (hts : st'.tsSeen = (!(timestamps [x]).isEmpty || st.tsSeen))
    (hds : st'.dimsSet = (!(entryDimsItems [x]).isEmpty || st.dimsSet))
    (hsp : st'.split = (hasSplit [x] || st.split)) (hu : st'.unroutable = st.unroutable)
    (hk : ∀ k, k ∈ st'.keys ↔ k ∈ st.keys ∨ ∃ p ∈ metricItems [x], routeOf cfg p.2 = some k)
    (hv : ∀ n, st'.vmap.get n = specKind cfg st'.keys (e ++ [x]) n) : Inv cfg (e ++ [x]) st' := by
  refine ⟨?_, ?_, ?_, hu.trans hi.un, fun k => ?_, hv⟩
  · rw [hts, hi.ts, timestamps_append]; cases timestamps e <;> cases timestamps [x] <;> rfl
  · rw [hds, hi.ds, entryDimsItems_append]; cases entryDimsItems e <;> cases entryDimsItems [x] <;> rfl
  · rw [hsp, hi.sp, hasSplit, hasSplit, hasSplit, List.any_append, Bool.or_comm]
  · simp only [hk, hi.km k, metricItems_append, List.mem_append, or_and_right, exists_or]

theorem inv_irrelevant (cfg : Config) (e : Entry F) (x : Item F) (st : VState) (hi : Inv cfg e st)
    (h1 : strItems [x] = []) (h2 : metricItems [x] = []) (h3 : entryDimsItems [x] = []) :
    Inv cfg (e ++ [x])
      { st with tsSeen := !(timestamps [x]).isEmpty || st.tsSeen, split := hasSplit [x] || st.split } := by
  refine inv_snoc cfg e x st _ hi rfl (by rw [h3]; rfl) rfl rfl (fun k => by simp [h2]) fun n => ?_
  rw [hi.vm n]
  exact (specKind_congr cfg _ e _ n (by simp [strNames, strItems_append, h1])
    (by simp [metricsNamed, metricItems_append, h2]) (by simp [declaredDims, entryDimsItems_append, h3])).symm

theorem step_timestamp (cfg : Config) (e : Entry F) (st : VState) (t : Int)
    (hi : Inv cfg e st) (he : st.errs = []) : StepOk cfg e st (.timestamp t) := by
  have hts := hi.ts
  unfold StepOk
  simp only [ItemOk, stepItem]
  cases h : timestamps e with
  | nil =>
    rw [h] at hts
    simp only [hts, List.isEmpty_nil, Bool.not_true, Bool.false_eq_true, ↓reduceIte]
    exact ⟨iff_of_true he trivial, fun _ => inv_irrelevant cfg e (.timestamp t) st hi rfl rfl rfl⟩
  | cons a l => rw [h] at hts; simp [hts, he]

theorem step_entryDims (cfg : Config) (e : Entry F) (st : VState) (sets : List (List Str))
    (hg : Good cfg e) (hi : Inv cfg e st) (he : st.errs = []) : StepOk cfg e st (.entryDims sets) := by
  have hds := hi.ds
  unfold StepOk
  simp only [ItemOk, stepItem]
  by_cases hk : st.keys = []
  · have hra := (keys_nil_iff cfg e st hi).mp hk
    cases hed : entryDimsItems e with
    | cons a l => rw [hed] at hds; simp [hk, hds]
    | nil =>
      rw [hed] at hds
      by_cases hs : sets = []
      · simp [hk, hds, hs]
      · obtain ⟨f1, f2⟩ := foldl_dimsStep_spec sets.flatten st
        obtain ⟨fr, _⟩ := foldl_dimsStep_frame allOn sets.flatten st
        simp only [VState.frame, Frame.mk.injEq] at fr
        have hmet : (∀ d ∈ sets.flatten, isMetricOpt (st.vmap.get d) = false) ↔
            ∀ p ∈ metricItems e, p.1 ∉ sets.flatten := by
          simp only [hi.vm, isMetric_spec, Bool.and_eq_false_imp, Bool.not_eq_eq_eq_not, Bool.not_true,
            decide_eq_false_iff_not, Bool.not_false, List.isEmpty_iff]
          constructor
          · intro h p hp hd
            have : metricsNamed p.1 e = [] := (Classical.em _).elim (str_no_metric cfg e p.1 hg.conf) (h p.1 hd)
            exact List.eq_nil_iff_forall_not_mem.mp this p.2 ((mem_metricsNamed ..).mpr hp)
          · intro h d hd _
            exact List.eq_nil_iff_forall_not_mem.mpr fun m hm => h (d, m) ((mem_metricsNamed ..).mp hm) hd
        simp only [hk, hds, hs, allOn, List.isEmpty_nil, List.isEmpty_iff, Bool.not_true, Bool.false_eq_true,
          ↓reduceIte, Bool.not_false, Bool.or_self, he, hra, true_and, and_true] at f1 f2 fr ⊢
        refine ⟨by rw [f1, hmet]; exact (and_iff_left hs).symm, fun _ =>
          inv_snoc cfg e _ st _ hi fr.1 rfl fr.2.2.1 fr.2.2.2.1 (fun k => by simp [fr.2.2.2.2, hk, metricItems]) fun n => ?_⟩
        have := hi.vm n
        rw [hk] at this
        rw [f2, get_foldl_insertUnfound, fr.2.2.2.2, this, specKind_entryDims]
  · have hra := mt (keys_nil_iff cfg e st hi).mpr hk
    simp [hk, hra]

theorem step_str (cfg : Config) (e : Entry F) (st : VState) (n s : Str) (hn : n ≠ [] ∧ n ≠ awsName)
    (hi : Inv cfg e st) (he : st.errs = []) : StepOk cfg e st (.value n (.str s)) := by
  have hvm := hi.vm n
  have hne : n.isEmpty = false := by simpa using hn.1
  unfold StepOk specKind at *
  simp only [ItemOk, stepItem, allOn, hne, hn, Bool.not_false, Bool.and_false, Bool.false_eq_true,
    ↓reduceIte, decide_false, ne_eq, not_false_eq_true, and_self, true_and]
  by_cases h1 : n ∈ strNames e
  · simp [stepString, hvm, h1]
  · cases h2 : (metricsNamed n e).isEmpty
    · simp [stepString, hvm, h1, h2, List.isEmpty_eq_false_iff.mp h2]
    · have hnil : metricsNamed n e = [] := List.isEmpty_iff.mp h2
      have hstep : stepString ⟨false, false, false⟩ st n = { st with vmap := st.vmap.set n .string } := by
        by_cases h3 : n ∈ declaredDims cfg e <;> simp [stepString, hvm, h1, h2, h3]
      rw [hstep]
      exact ⟨iff_of_true he ⟨h1, hnil⟩, fun _ => inv_snoc cfg e _ st _ hi rfl rfl rfl rfl (fun k => by simp [metricItems])
        fun k => by simp only [get_set, specKind_str, hi.vm k]⟩

theorem inv_metric (cfg : Config) (e : Entry F) (st st' : VState) (n : Str) (m : Metric F) (hi : Inv cfg e st)
    (h1 : n ∉ strNames e) (hf : st'.frame = { st.frame with keys := keysAfter cfg st.keys m })
    (hvm : st'.vmap = st.vmap.set n
      (.metric (idxOf cfg st'.keys m :: (metricsNamed n e).reverse.map (idxOf cfg st.keys)))) :
    Inv cfg (e ++ [.value n (.metric m)]) st' := by
  simp only [VState.frame, Frame.mk.injEq] at hf
  obtain ⟨hts, hds, hsp, hun, hk⟩ := hf
  have hstab : ∀ p ∈ metricItems e, idxOf cfg st'.keys p.2 = idxOf cfg st.keys p.2 :=
    fun p hp => hk ▸ idxOf_keysAfter cfg _ m p.2 fun k hk => (hi.km k).mpr ⟨p, hp, hk⟩
  refine inv_snoc cfg e _ st st' hi hts hds hsp hun (fun k => by simp [hk, mem_keysAfter, metricItems]) fun k => ?_
  rw [hvm, get_set, specKind_metric _ _ _ _ _ _ h1, specKind_keys_congr cfg _ _ e k hstab, hi.vm k,
      List.map_congr_left fun m' hm' => hstab (n, m') ((mem_metricsNamed n e m').mp (List.mem_reverse.mp hm'))]

theorem step_metric (cfg : Config) (e : Entry F) (st : VState) (n : Str) (m : Metric F) (hn : n ≠ [] ∧ n ≠ awsName)
    (hg : Good cfg e) (hi : Inv cfg e st) (he : st.errs = []) : StepOk cfg e st (.value n (.metric m)) := by
  have hvm := hi.vm n
  have hne : n.isEmpty = false := by simpa using hn.1
  have hstab : ∀ p ∈ metricItems e, idxOf cfg (keysAfter cfg st.keys m) p.2 = idxOf cfg st.keys p.2 :=
    fun p hp => idxOf_keysAfter cfg _ m p.2 fun k hk => (hi.km k).mpr ⟨p, hp, hk⟩
  -- the new index is among the earlier ones iff an earlier metric of this name has the same route
  have hmem : idxOf cfg (keysAfter cfg st.keys m) m ∈ (metricsNamed n e).reverse.map (idxOf cfg st.keys)
      ↔ ∃ m' ∈ metricsNamed n e, routeOf cfg m' = routeOf cfg m := by
    simp only [List.mem_map, List.mem_reverse]
    refine exists_congr fun m' => and_congr_right fun hm' => ?_
    have hp := (mem_metricsNamed n e m').mp hm'
    rw [← hstab _ hp]
    refine ⟨idxOf_inj cfg _ m' m (fun k hk => ?_) (fun k hk => ?_), fun h => by unfold idxOf; rw [h]⟩
    · exact (mem_keysAfter ..).mpr (.inl ((hi.km k).mpr ⟨_, hp, hk⟩))
    · exact (mem_keysAfter ..).mpr (.inr hk)
  unfold StepOk specKind at *
  simp only [ItemOk, stepItem, allOn, hne, hn, Bool.not_false, Bool.and_false, Bool.false_eq_true,
    ↓reduceIte, decide_false, ne_eq, not_false_eq_true, and_self, true_and, stepMetric_eq, routeStep_eq]
  -- the state after the per-metric-dimension check
  obtain ⟨st1, hst1⟩ :
      ∃ st1, st1 = if ((routeOf cfg m).isSome && !st.split) = true then st.err (.perMetricDims n) else st :=
    ⟨_, rfl⟩
  have hv1 : st1.vmap = st.vmap := by rw [hst1]; split <;> rfl
  have hf1 : st1.frame = st.frame := by rw [hst1]; split <;> rfl
  have hr : st1.errs = [] ↔ (hasSplit e = false → routeOf cfg m = none) := by
    rw [hst1, ← hi.sp]
    cases routeOf cfg m <;> cases st.split <;> simp [he]
  rw [← hst1]
  simp only [VState.frame, Frame.mk.injEq] at hf1
  have hun : st1.unroutable = false := hf1.2.2.2.1.trans hi.un
  have hund : metricsNamed n e ≠ [] → n ∉ declaredDims cfg e := fun h hd => by
    obtain ⟨a, ha⟩ := List.exists_mem_of_ne_nil _ h
    exact hg.under (n, a) ((mem_metricsNamed n e a).mp ha) hd
  by_cases h1 : n ∈ strNames e
  · simp [mapStep, hun, hv1, hvm, h1]
  · simp only [h1, ↓reduceIte] at hvm
    cases h2 : (metricsNamed n e).isEmpty
    · have hne := List.isEmpty_eq_false_iff.mp h2
      simp only [h2, Bool.false_eq_true, ↓reduceIte] at hvm
      by_cases hin : idxOf cfg (keysAfter cfg st.keys m) m ∈ (metricsNamed n e).reverse.map (idxOf cfg st.keys)
      · obtain ⟨m', hm', hrm⟩ := hmem.mp hin
        simp only [mapStep, hun, hv1, hvm, hin, Bool.or_self, Bool.false_eq_true, ↓reduceIte]
        simp only [err_errs, List.append_eq_nil_iff, List.cons_ne_self, and_false, false_iff, false_implies, and_true]
        exact fun h => h.1.2 m' hm' hrm
      · have hall : ∀ m' ∈ metricsNamed n e, ¬ routeOf cfg m' = routeOf cfg m :=
          fun m' hm' h => hin (hmem.mpr ⟨m', hm', h⟩)
        simp only [mapStep, hun, hv1, hvm, hin, Bool.or_self, Bool.false_eq_true, ↓reduceIte]
        exact ⟨hr.trans ⟨fun h => ⟨⟨h1, hall⟩, hund hne, h⟩, fun h => h.2.2⟩,
          fun _ => inv_metric cfg e st _ n m hi h1 (by simp [VState.frame, hf1, hi.un]) rfl⟩
    · have hnil := List.isEmpty_iff.mp h2
      simp only [h2, ↓reduceIte] at hvm
      by_cases h3 : n ∈ declaredDims cfg e
      · simp [mapStep, hun, hv1, hvm, h3]
      · simp only [h3, ↓reduceIte] at hvm
        simp only [mapStep, hun, hv1, hvm, Bool.or_self, Bool.false_eq_true, ↓reduceIte]
        exact ⟨hr.trans ⟨fun h => ⟨⟨h1, by simp [hnil]⟩, h3, h⟩, fun h => h.2.2⟩,
          fun _ => inv_metric cfg e st _ n m hi h1 (by simp [VState.frame, hf1, hi.un]) (by rw [hnil]; rfl)⟩

theorem step_value (cfg : Config) (e : Entry F) (st : VState) (n : Str) (v : Val F) (hv : v ≠ .error)
    (hg : Good cfg e) (hi : Inv cfg e st) (he : st.errs = []) : StepOk cfg e st (.value n v) := by
  by_cases hn : n ≠ [] ∧ n ≠ awsName
  · cases v with
    | str s => exact step_str cfg e st n s hn hi he
    | metric m => exact step_metric cfg e st n m hn hg hi he
    | error => exact absurd rfl hv
    | nothing =>
      have hne : n.isEmpty = false := by simpa using hn.1
      exact ⟨by simp [ItemOk, stepItem, allOn, hn, hne, he], fun _ => by
        simp only [stepItem, allOn, hn, hne, Bool.not_false, Bool.and_false, Bool.false_eq_true, ↓reduceIte,
          decide_false]
        exact inv_irrelevant cfg e (.value n .nothing) st hi rfl rfl rfl⟩
  · have hne : (stepItem cfg allOn st (.value n v)).errs ≠ [] := by
      by_cases h0 : n = []
      · simp [stepItem, allOn, h0]
      · have h1 : n = awsName := Classical.not_not.mp fun h => hn ⟨h0, h⟩
        have : awsName.isEmpty = false := by decide
        simp [stepItem, allOn, h1, this]
    exact ⟨iff_of_false hne fun h => hn h.1, fun h => absurd h hne⟩

theorem noUnroutable_snoc (l : Entry F) (x : Item F) :
    noUnroutable (l ++ [x]) = true ↔ noUnroutable l = true ∧ x ≠ .allowUnroutable := by
  induction l with
  | nil => cases x <;> simp [noUnroutable]
  | cons y l ih => cases y <;> simp [noUnroutable, ih]

theorem noValueError_snoc (l : Entry F) (x : Item F) :
    noValueError (l ++ [x]) = true ↔ noValueError l = true ∧ ∀ n, x ≠ .value n .error := by
  induction l with
  | nil => rcases x with _|_|_|_|_|⟨_, _|_|_|_⟩ <;> simp [noValueError]
  | cons y l ih => rcases y with _|_|_|_|_|⟨_, _|_|_|_⟩ <;> simp [noValueError, ih]

theorem good_nil (cfg : Config) : Good cfg ([] : Entry F) :=
  ⟨by simp [timestamps], by simp [valueNames], by simp [slots, noConflict], by simp [metricItems],
    by simp [dimsWithoutSplit], by simp [entryDimsItems], by simp [entryDimsItems], by simp [lateDims]⟩

theorem inv_nil (cfg : Config) : Inv cfg ([] : Entry F) (initState cfg allOn) := by
  refine ⟨rfl, rfl, rfl, rfl, fun k => by simp [initState, metricItems], fun n => ?_⟩
  simp only [initState, initMap, allOn, Bool.false_eq_true, ↓reduceIte]
  rw [get_foldl_insertUnfound]
  simp [specKind, strNames, strItems, metricsNamed, metricItems, declaredDims, entryDimsItems, VMap.get]

theorem run_spec (cfg : Config) (e : Entry F) :
    noUnroutable e = true → noValueError e = true →
    ((run cfg allOn (initState cfg allOn) e).errs = [] ↔ Good cfg e) ∧
    ((run cfg allOn (initState cfg allOn) e).errs = [] → Inv cfg e (run cfg allOn (initState cfg allOn) e)) := by
  induction e using snoc_induction with
  | h0 => intro _ _; exact ⟨⟨fun _ => good_nil cfg, fun _ => rfl⟩, fun _ => inv_nil cfg⟩
  | hs l x ih =>
    intro hu hv
    rw [noUnroutable_snoc] at hu
    rw [noValueError_snoc] at hv
    obtain ⟨ih1, ih2⟩ := ih hu.1 hv.1
    rw [run_append, good_snoc]
    show ((stepItem cfg allOn (run cfg allOn (initState cfg allOn) l) x).errs = [] ↔ _) ∧ _
    by_cases he : (run cfg allOn (initState cfg allOn) l).errs = []
    · have hg := ih1.mp he
      have hi := ih2 he
      have hstep : StepOk cfg l (run cfg allOn (initState cfg allOn) l) x := by
        cases x with
        | timestamp t => exact step_timestamp cfg l _ t hi he
        | allowSplit => exact ⟨by simp [ItemOk, stepItem, he], fun _ => inv_irrelevant cfg l .allowSplit _ hi rfl rfl rfl⟩
        | otherCfg => exact ⟨by simp [ItemOk, stepItem, he], fun _ => inv_irrelevant cfg l .otherCfg _ hi rfl rfl rfl⟩
        | allowUnroutable => exact absurd rfl hu.2
        | entryDims sets => exact step_entryDims cfg l _ sets hg hi he
        | value n v => exact step_value cfg l _ n v (fun h => hv.2 n (by rw [h])) hg hi he
      exact ⟨hstep.1.trans (and_iff_right hg).symm, hstep.2⟩
    · have hne : (stepItem cfg allOn (run cfg allOn (initState cfg allOn) l) x).errs ≠ [] :=
        fun h => he (errs_nil_of_step cfg allOn _ x h)
      exact ⟨iff_of_false hne fun h => he (ih1.mpr h.1), fun h => absurd h hne⟩

theorem sweep_spec (cfg : Config) (e : Entry F) (st : VState) (hg : Good cfg e) (hi : Inv cfg e st) :
    sweep allOn st = [] ↔ ∀ d ∈ declaredDims cfg e, d ∈ strNames e := by
  have hget : ∀ d, st.vmap.get d = some .unfound ↔ (d ∉ strNames e ∧ d ∈ declaredDims cfg e) := by
    intro d
    rw [hi.vm d]
    unfold specKind
    by_cases h1 : d ∈ strNames e
    · simp [h1]
    · cases h2 : (metricsNamed d e).isEmpty
      · obtain ⟨a, ha⟩ := List.exists_mem_of_ne_nil _ (List.isEmpty_eq_false_iff.mp h2)
        simp [h1, hg.under (d, a) ((mem_metricsNamed d e a).mp ha)]
      · simp [h1]
  simp only [sweep, allOn, hi.un, Bool.or_self, Bool.false_eq_true, ↓reduceIte, List.map_eq_nil_iff,
    List.filter_eq_nil_iff, beq_iff_eq, hget, dedup_mem]
  exact ⟨fun h d hd => Classical.not_not.mp fun hs =>
      have hu := (hget d).mpr ⟨hs, hd⟩
      h d (Classical.not_not.mp fun hk => by rw [(get_none _ d).mpr hk] at hu; cases hu) ⟨hs, hd⟩,
    fun h d _ hu => hu.1 (h d hu.2)⟩

theorem validate_nil_iff (cfg : Config) (e : Entry F) (hu : noUnroutable e = true) (hv : noValueError e = true) :
    validate cfg allOn e = [] ↔ Good cfg e ∧ ∀ d ∈ declaredDims cfg e, d ∈ strNames e := by
  obtain ⟨h1, h2⟩ := run_spec cfg e hu hv
  simp only [validate, List.append_eq_nil_iff, h1]
  exact and_congr_right fun hg => sweep_spec cfg e _ hg (h2 (h1.mpr hg))

end EmfSpec
