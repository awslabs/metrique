import Props.EmfRefinePrint
import Props.C14
/-!
What `write_observation`, the observation loop, `write_metric_value` and `write_metric`
of the operational model append, in terms of the declarative `obsOut` / `usableObs` / `fieldOf` / `declOf`.
-/
namespace EmfRefine
open JsonTree Json EmfSpec

variable {F : Type}

/-- a multiplicity is a `u64` -/
def multOk (mult : Option Nat) : Prop := ∀ m, mult = some m → m ≤ EmfSpec.u64Max

theorem multOk_getD {mult : Option Nat} (h : multOk mult) : mult.getD 1 ≤ EmfSpec.u64Max := by
  cases mult with
  | none => decide
  | some m => exact h m rfl

theorem satMul_eq (a b : Nat) : Emf.satMul a b = EmfSpec.satMul a b := by
  unfold Emf.satMul EmfSpec.satMul Emf.u64Max
  split
  · rename_i h; exact (Nat.min_eq_left h).symm
  · rename_i h; exact (Nat.min_eq_right (by omega)).symm

theorem obsText_eq (ops : FloatOps F) (txt : F → List Nat) {mult : Option Nat} (hm : multOk mult) (o : Obs F) :
    Emf.obsText mult (toEmfObs ops txt o) = (obsOut ops mult o).map fun p => (numTok txt p.1, natDigits p.2) := by
  have h1 : EmfSpec.satMul 1 (mult.getD 1) = mult.getD 1 := by
    unfold EmfSpec.satMul; rw [Nat.one_mul]; exact Nat.min_eq_left (multOk_getD hm)
  cases o with
  | unsigned v => simp [toEmfObs, Emf.obsText, obsOut, Obs.value, Obs.occ, h1, numTok]
  | floating x =>
    cases hx : ops.usable x <;> simp [toEmfObs, Emf.obsText, obsOut, Obs.value, Obs.occ, hx, h1, numTok]
  | repeated t n =>
    cases hx : ops.usable (if n = 0 then ops.zero else ops.mean t n) <;>
      simp [toEmfObs, Emf.obsText, obsOut, Obs.value, Obs.occ, hx, satMul_eq, numTok]

theorem obsTexts_eq (ops : FloatOps F) (txt : F → List Nat) {mult : Option Nat} (hm : multOk mult) (obs : List (Obs F)) :
    (obs.map (toEmfObs ops txt)).filterMap (Emf.obsText mult) =
      (usableObs ops mult obs).map fun p => (numTok txt p.1, natDigits p.2) := by
  simp only [List.filterMap_map, Function.comp_def, obsText_eq ops txt hm, usableObs, List.map_filterMap]

theorem commas_print (l : List JVal) : Emf.commas false (l.map print) = printElems l := by
  cases l with
  | nil => rfl
  | cons x xs => simp [Emf.commas, printElems_cons, Function.comp_def]

def histJ (txt : F → List Nat) (l : List (Num F × Nat)) : JVal :=
  .obj [(bytes! "Values", .arr (l.map fun p => .num (numTok txt p.1))), (bytes! "Counts", .arr (l.map fun p => .num (natDigits p.2)))]

theorem histJ_eq (txt : F → List Nat) (l : List (Num F × Nat)) :
    mvalJson txt (.hist (l.map (·.1)) (l.map (·.2))) = histJ txt l := by
  simp [mvalJson, histJ, List.map_map, Function.comp_def]

theorem valuesText_eq (ops : FloatOps F) (txt : F → List Nat) {mult : Option Nat} (hm : multOk mult) (obs : List (Obs F)) :
    Emf.valuesText mult (obs.map (toEmfObs ops txt)) = print (histJ txt (usableObs ops mult obs)) := by
  have hv := commas_print ((usableObs ops mult obs).map fun p => .num (numTok txt p.1))
  have hc := commas_print ((usableObs ops mult obs).map fun p => .num (natDigits p.2))
  simp only [List.map_map, Function.comp_def, print] at hv hc
  simp [Emf.valuesText, obsTexts_eq ops txt hm, List.map_map, Function.comp_def, hv, hc, Emf.valuesObj, histJ, print,
    printMembers, jstr_Values, jstr_Counts, Emf.countsPrefix]

/-- outside the two scalar shapes (no multiplicity, one `Unsigned` / `Floating` observation) `write_metric_value`
takes the `Values` / `Counts` arm -/
theorem writeMetricValue_hist (name : Str) (fields counts : Emf.PBuf) (first : Emf.Obs) (rest : List Emf.Obs)
    (mult : Option Nat) (h : mult ≠ none ∨ rest ≠ [] ∨ ∃ t n, first = .repeated t n) :
    Emf.writeMetricValue name fields counts first rest mult =
      Emf.writeValues (((fields.push 44).jsonString name).push 58) counts first rest mult := by
  rcases h with h | h | ⟨t, n, rfl⟩
  · cases mult with
    | none => exact absurd rfl h
    | some m => cases first with
      | floating o => cases o <;> cases rest <;> rfl
      | _ => cases rest <;> rfl
  · cases rest with
    | nil => exact absurd rfl h
    | cons r rs => cases first with
      | floating o => cases o <;> rfl
      | _ => rfl
  · rfl

/-- and so does `fieldOf` -/
theorem fieldOf_hist (ops : FloatOps F) (mult : Option Nat) (m : Metric F) (first : Obs F) (rest : List (Obs F))
    (hobs : m.obs = first :: rest) (h : mult ≠ none ∨ rest ≠ [] ∨ ∃ t n, first = .repeated t n) :
    fieldOf ops mult m = if (usableObs ops mult (first :: rest)).isEmpty then none
      else some (.hist ((usableObs ops mult (first :: rest)).map (·.1)) ((usableObs ops mult (first :: rest)).map (·.2))) := by
  unfold fieldOf
  rw [hobs]
  split <;> first | rfl | simp_all

/-- `write_metric_value`: the member it appends is `"name":<fieldOf>`; it reports "skipped" exactly when
`fieldOf` is `none` (whatever it wrote is then truncated by the caller) -/
theorem writeMetricValue_eq (ops : FloatOps F) (txt : F → List Nat) {mult : Option Nat} (hm : multOk mult)
    (name : Str) (fields : Emf.PBuf) (m : Metric F) (first : Obs F) (rest : List (Obs F)) (hobs : m.obs = first :: rest) :
    ∃ x, Emf.writeMetricValue name fields (Emf.PBuf.new Emf.countsPrefix) (toEmfObs ops txt first)
          (rest.map (toEmfObs ops txt)) mult
        = (fields.pushRaw x, Emf.PBuf.new Emf.countsPrefix, (fieldOf ops mult m).isSome) ∧
      ∀ v, fieldOf ops mult m = some v → x = 44 :: pm (name, mvalJson txt v) := by
  by_cases h : mult ≠ none ∨ rest ≠ [] ∨ ∃ t n, first = .repeated t n
  · refine ⟨44 :: pm (name, histJ txt (usableObs ops mult (first :: rest))), ?_, ?_⟩
    · rw [writeMetricValue_hist, Emf.writeValues_eq _ (Emf.PBuf.WF.new _), ← List.map_cons, valuesText_eq ops txt hm,
        obsTexts_eq ops txt hm, List.isEmpty_map, fieldOf_hist ops mult m first rest hobs h]
      · refine Prod.ext ?_ (Prod.ext rfl ?_)
        · simp [Emf.PBuf.pushRaw, Emf.PBuf.push, Emf.PBuf.jsonString, pm]
        · split <;> simp_all
      · rcases h with h | h | ⟨t, n, rfl⟩
        · exact .inl h
        · exact .inr (.inl (by simpa using h))
        · exact .inr (.inr ⟨_, _, rfl⟩)
    · intro v hv
      rw [fieldOf_hist ops mult m first rest hobs h] at hv
      split at hv
      · cases hv
      · cases hv; rw [histJ_eq]
  · simp only [not_or, ne_eq, Classical.not_not, not_exists] at h
    obtain ⟨rfl, rfl, h3⟩ := h
    cases first with
    | repeated t n => exact absurd rfl (h3 t n)
    | unsigned v =>
      refine ⟨44 :: pm (name, .num (natDigits v)), ?_, ?_⟩
      · simp [Emf.writeMetricValue, toEmfObs, fieldOf, hobs, Emf.PBuf.pushRaw, Emf.PBuf.push, Emf.PBuf.jsonString,
          Emf.PBuf.pushInt, pm, print]
      · intro v' hv
        simp only [fieldOf, hobs, Option.some.injEq] at hv
        rw [← hv]; rfl
    | floating x =>
      cases hx : ops.usable x with
      | none =>
        refine ⟨44 :: (jstr name ++ [58]), ?_, ?_⟩
        · simp [Emf.writeMetricValue, toEmfObs, fieldOf, hobs, hx, Emf.PBuf.pushRaw, Emf.PBuf.push, Emf.PBuf.jsonString]
        · intro v' hv
          simp [fieldOf, hobs, hx] at hv
      | some y =>
        refine ⟨44 :: pm (name, .num (Emf.stripDotZero (txt y))), ?_, ?_⟩
        · simp [Emf.writeMetricValue, toEmfObs, fieldOf, hobs, hx, Emf.PBuf.pushRaw, Emf.PBuf.push, Emf.PBuf.jsonString,
            pm, print]
        · intro v' hv
          simp only [fieldOf, hobs, hx, Option.map_some, Option.some.injEq] at hv
          rw [← hv]; rfl

/-- `,"name":value` for every member -/
def fieldBytes (txt : F → List Nat) (l : List (Str × MVal F)) : List Nat :=
  (l.map fun p => 44 :: pm (p.1, mvalJson txt p.2)).flatten

theorem fieldsOf_single (ops : FloatOps F) (mult : Option Nat) (name : Str) (m : Metric F) :
    fieldsOf ops mult [(name, m)] = match fieldOf ops mult m with
      | some v => [(name, v)]
      | none => [] := by
  unfold fieldsOf
  simp only [List.filterMap_cons, List.filterMap_nil]
  cases fieldOf ops mult m <;> rfl

theorem declsOf_single (ops : FloatOps F) (mult : Option Nat) (name : Str) (m : Metric F) :
    declsOf ops mult [(name, m)] = if (fieldOf ops mult m).isSome then (declOf name m).toList else [] := by
  unfold declsOf
  cases h : (fieldOf ops mult m).isSome
  · simp [h]
  · cases hd : declOf name m <;> simp [h, hd]

theorem printDecls_nil_iff (Ds : List Decl) : printElems (Ds.map declJson) = [] ↔ Ds = [] := by
  cases Ds with
  | nil => simp [printElems]
  | cons d rest => simp [printElems_cons, declJson, print]

/-- `write_metric` on buffers in the shape the formatter keeps them -/
theorem writeMetric_eq (ops : FloatOps F) (txt : F → List Nat) {mult : Option Nat} (hm : multOk mult)
    (name : Str) (fields : Emf.PBuf) (mp : List Nat) (Ds : List Decl) (m : Metric F) :
    Emf.writeMetric name fields ⟨mp.length, mp ++ printElems (Ds.map declJson)⟩ (Emf.PBuf.new Emf.countsPrefix)
        (m.obs.map (toEmfObs ops txt)) m.unit (toEmfFlags m.flag) mult
      = (⟨fields.prefixLen, fields.buf ++ fieldBytes txt (fieldsOf ops mult [(name, m)])⟩,
         ⟨mp.length, mp ++ printElems ((Ds ++ declsOf ops mult [(name, m)]).map declJson)⟩,
         Emf.PBuf.new Emf.countsPrefix) := by
  rw [fieldsOf_single, declsOf_single]
  cases hobs : m.obs with
  | nil =>
    have : fieldOf ops mult m = none := by cases mult <;> simp [fieldOf, hobs]
    obtain ⟨fp, fb⟩ := fields
    simp [Emf.writeMetric, this, fieldBytes]
  | cons first rest =>
    obtain ⟨x, h1, h2⟩ := writeMetricValue_eq ops txt hm name fields m first rest hobs
    simp only [List.map_cons, Emf.writeMetric, h1]
    cases hf : fieldOf ops mult m with
    | none =>
      obtain ⟨fp, fb⟩ := fields
      simp [Emf.PBuf.pushRaw, Emf.PBuf.truncate, fieldBytes]
    | some v =>
      have hx := h2 v hf
      subst hx
      simp only [Option.isSome_some, if_true]
      cases hfl : m.flag with
      | noMetric =>
        obtain ⟨fp, fb⟩ := fields
        simp [toEmfFlags, declOf, hfl, Emf.PBuf.pushRaw, fieldBytes]
      | _ =>
        have hd := metricDecl_eq_print name m.unit m.flag (by simp [hfl])
        rw [hfl] at hd
        simp only [toEmfFlags] at hd ⊢
        refine Prod.ext ?_ (Prod.ext ?_ rfl)
        · obtain ⟨fp, fb⟩ := fields
          simp [Emf.PBuf.pushRaw, fieldBytes]
        · simp only [declOf, hfl, Option.toList_some, List.map_append, List.map_cons, List.map_nil, printElems_snoc,
            Emf.PBuf.isEmpty, hd]
          cases Ds with
          | nil => simp [Emf.PBuf.pushRaw, printElems]
          | cons d ds =>
            have this' : printElems (declJson d :: ds.map declJson) ≠ [] := by
              simpa using mt (printDecls_nil_iff (d :: ds)).mp (List.cons_ne_nil d ds)
            simp [this', Emf.PBuf.pushRaw, Emf.PBuf.push]

end EmfRefine
