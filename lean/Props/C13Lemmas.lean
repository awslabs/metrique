import Props.C06
/-!
Slot invariants (C13): a per-slot local invariant `SlotOk` (oneshot cell / receiver / data / close result
are consistent with "the guard has sent"), and two global ones tying the closing of the entry's fields to
the flush-guard protocol.  They are the invariants `SlotOkX` / `SInvX` of `Props/C13XLemmas.lean`, which are the
ones proved preserved, on states without a failed slot (`sinv_reachable`, `Props/C13.lean`).
-/
namespace KeepAlive

/-- consistency of one slot; `sentOk` = the guard's `tx.send` happened before this field was closed -/
structure SlotOk (sl : Slot) : Prop where
  unopened : sl.opened = false → sl.g = .none
  nothing : sl.sentOk = false → sl.cell = none ∧ sl.data = none
  sentg : sl.sentOk = true → sl.g ≠ .live ∧ sl.opened = true
  /-- the receiver stays in place until the value arrives or the field is closed (a cancelled wait does not remove it) -/
  rxstays : sl.closedAs = none → sl.sentOk = false → sl.rx = true
  /-- a sent value is in the channel, or has been moved to `data` by a completed `wait_for_data` -/
  delivered : sl.closedAs = none → sl.sentOk = true →
    (sl.cell = some sl.gval ∧ sl.rx = true ∧ sl.data = none) ∨ (sl.data = some sl.gval ∧ sl.rx = false ∧ sl.cell = none)
  gone : sl.opened = true → sl.g ≠ .live → sl.sentOk = true ∨ sl.closedAs.isSome
  /-- `Slot::close` returned the sent value iff the send came first -/
  closed : ∀ r, sl.closedAs = some r → r = if sl.sentOk then some sl.gval else none
  afterclose : sl.closedAs.isSome → sl.cell = none ∧ sl.data = none ∧ sl.rx = false

structure SInv (s : St) : Prop where
  ok : ∀ sl ∈ s.slots, SlotOk sl
  /-- fields are closed only inside the entry's destructor, i.e. after the conditions of C06 -/
  g0 : (∃ sl ∈ s.slots, sl.closedAs.isSome) → s.hS = 0 ∧ (s.fgLive = 0 ∨ s.dgBegun > 0)
  /-- a wait-mode slot that was closed before any force-flush guard began to drop had been sent first -/
  g1 : ∀ sl ∈ s.slots, sl.closedAs.isSome → sl.opened = true → sl.mode = .wait → s.dgBegun = 0 → sl.sentOk = true

/-- after a successful `closeFirst` some field is closed (the one it has just closed); nothing is said here about the
fields that were closed before -/
theorem closeFirst_closed_mono {l l' : List Slot} (h : closeFirst l = some l') :
    (∃ sl ∈ l', sl.closedAs.isSome) := by
  obtain ⟨j, sl, hsl, -, rfl⟩ := closeFirst_eq h
  exact ⟨closeSlot1 sl, List.mem_of_getElem? (i := j) (by simp [getElem?_modifyAt, hsl]), rfl⟩

end KeepAlive
