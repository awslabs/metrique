import Props.C13
import Model.KeepAliveHistory
/-!
Simulation relation between a state of the micro-step model (`KeepAlive.St`, plus the ghost `w` of
`Model/KeepAliveHistory.lean`) and a state of the specification automaton (`Spec.SSt`), and the bookkeeping
lemmas about sums over slot lists.
-/
namespace KeepAlive
open Spec

/-- the guard of this slot is between its send and the drop of its fields -/
def sentBy (sl : Slot) : Nat := if sl.g = .sent then 1 else 0
/-- … and holds a flush guard -/
def sentWBy (sl : Slot) : Nat := if sl.g = .sent ∧ sl.mode = .wait then 1 else 0
def liveWBy (sl : Slot) : Nat := if sl.g = .live ∧ sl.mode = .wait then 1 else 0

theorem held_split (l : List Slot) : held l = sumBy liveWBy l + sumBy sentWBy l := by
  induction l with
  | nil => rfl
  | cons a r ih =>
    have : heldBy a = liveWBy a + sentWBy a := by
      unfold heldBy liveWBy sentWBy
      cases hg : a.g <;> cases hm : a.mode <;> simp
    simp only [held, sumBy, ih, this]; omega

theorem sentW_le_sent (l : List Slot) : sumBy sentWBy l ≤ sumBy sentBy l := by
  induction l with
  | nil => simp [sumBy]
  | cons a r ih =>
    have : sentWBy a ≤ sentBy a := by unfold sentWBy sentBy; split <;> split <;> simp_all
    simp only [sumBy]; omega

theorem any_sent_false {l : List Slot} (h : sumBy sentBy l = 0) : l.any (·.g = .sent) = false := by
  induction l with
  | nil => rfl
  | cons a r ih =>
    simp only [sumBy] at h
    have h1 : sentBy a = 0 := by omega
    have h2 : a.g ≠ .sent := by
      intro hg; simp [sentBy, hg] at h1
    simp [h2, ih (by omega)]

/-- drops in flight, per program counter -/
def pF : PPc → Nat
  | .decV => 1
  | .app => 1
  | .decG => 1
  | _ => 0

def iF : IPc → Nat
  | .pending => 1
  | .app => 1
  | _ => 0

def lF : LPc → Nat
  | .free => 0
  | _ => 1

/-- the thread at `iPc` is the one that was dropping slot guard `i` -/
def PendAt (s : St) (w : Option Nat) (i : Nat) : Prop :=
  (s.iPc = .pending ∨ s.iPc = .app) ∧ s.iBy = .fg ∧ w = some i

/-- one slot of the model against one slot of the specification automaton; `p` = the drop of this slot's guard
goes on as the `iPc` thread -/
structure SlotSim (p : Prop) (sl : Slot) (tl : SSlot) : Prop where
  opened : tl.opened = sl.opened
  mode : tl.mode = sl.mode
  gval : tl.gval = sl.gval
  gone : tl.gone = true ↔ (sl.opened = true ∧ sl.g ≠ .live)
  ended : tl.ended = true → sl.opened = true ∧ sl.g = .none ∧ ¬ p
  sure : tl.sure = true → sl.sentOk = true
  pend : p → sl.opened = true ∧ sl.g = .none

structure Sim (s : St) (w : Option Nat) (t : SSt) : Prop where
  refs : t.refsOut = s.hS
  fg : t.fgOut + sumBy sentWBy s.slots = s.fgLive
  dg : t.dgOut = s.dgLive
  dgb : t.dgBegun = s.dgBegun
  dge : t.dgEnded = s.dgDone
  infl : t.inflight = pF s.pPc + iF s.iPc + s.nUp + lF s.lPc + s.nDec + sumBy sentBy s.slots
  plain : t.plain = s.plain
  hits : t.hits = s.hits
  apps : t.apps = s.appended.length
  len : t.slots.length = s.slots.length
  slots : ∀ i sl tl, s.slots[i]? = some sl → t.slots[i]? = some tl → SlotSim (PendAt s w i) sl tl
  wlen : ∀ i, PendAt s w i → i < s.slots.length

theorem SlotSim.mono {p p' : Prop} {sl : Slot} {tl : SSlot} (h : SlotSim p sl tl) (hp : p' → p) :
    SlotSim p' sl tl :=
  { h with ended := fun e => ⟨(h.ended e).1, (h.ended e).2.1, fun x => (h.ended e).2.2 (hp x)⟩,
           pend := fun x => h.pend (hp x) }

theorem sim_init (cfg : List (Bool × Nat)) : Sim (init (cfg.map fresh)) none (start cfg.length) := by
  constructor
  case slots =>
    intro i sl tl h1 h2
    simp only [init, List.getElem?_map] at h1
    simp only [start, List.getElem?_replicate] at h2
    split at h2
    · cases h2
      cases hc : cfg[i]? with
      | none => simp [hc] at h1
      | some c =>
        simp [hc] at h1; subst h1
        constructor <;> simp [fresh, PendAt, init]
    · cases h2
  case wlen => intro i h; simp [PendAt, init] at h
  all_goals simp [init, start, pF, iF, lF, sumBy_fresh, sentBy, sentWBy, fresh]

variable {s s' : St} {w w' : Option Nat} {t t' : SSt}

theorem Sim.refs_pos (hsim : Sim s w t) (hu : ownerUsable s = true) : t.refsOut > 0 :=
  hsim.refs ▸ (ownerUsable_iff.1 hu).1

theorem Sim.fgOut_pos (hsim : Sim s w t) (h : held s.slots < s.fgLive) : t.fgOut > 0 := by
  have := hsim.fg; have := held_split s.slots; omega

theorem Sim.getElem? {i : Nat} {sl : Slot} (hsim : Sim s w t) (hsl : s.slots[i]? = some sl) :
    ∃ tl, t.slots[i]? = some tl :=
  ⟨_, List.getElem?_eq_getElem (hsim.len ▸ (List.getElem?_eq_some_iff.1 hsl).1)⟩

/-- slot part of `Sim` when the model's slots and the automaton's slots do not change -/
theorem sim_slots_mono (hsim : Sim s w t) (hs : s'.slots = s.slots) (ht : t'.slots = t.slots)
    (hp : ∀ i, PendAt s' w' i → PendAt s w i) :
    (∀ i sl tl, s'.slots[i]? = some sl → t'.slots[i]? = some tl → SlotSim (PendAt s' w' i) sl tl) ∧
    (∀ i, PendAt s' w' i → i < s'.slots.length) := by
  rw [hs, ht]
  exact ⟨fun i sl tl h1 h2 => (hsim.slots i sl tl h1 h2).mono (hp i), fun i h => hsim.wlen i (hp i h)⟩

/-- What a change of slot `i` on both sides does to `Sim`: its slot part holds again if the changed slots are related,
and the two sums move by the change in slot `i`.  `P'` stands for `PendAt` of the new state; for a change on one side
only use `modifyAt_id`. -/
theorem sim_slots_mod {f : Slot → Slot} {g : SSlot → SSlot} {i : Nat} {sl : Slot} {tl : SSlot} {P' : Nat → Prop}
    {l : List Slot} {m : List SSlot} (hsim : Sim s w t) (hsl : s.slots[i]? = some sl) (htl : t.slots[i]? = some tl)
    (hs : l = modifyAt f s.slots i) (ht : m = modifyAt g t.slots i) (hp : ∀ j, j ≠ i → P' j → PendAt s w j)
    (hi : SlotSim (P' i) (f sl) (g tl)) :
    (m.length = l.length ∧ (∀ j sl tl, l[j]? = some sl → m[j]? = some tl → SlotSim (P' j) sl tl) ∧
      (∀ j, P' j → j < l.length)) ∧
    sumBy sentBy l + sentBy sl = sumBy sentBy s.slots + sentBy (f sl) ∧
    sumBy sentWBy l + sentWBy sl = sumBy sentWBy s.slots + sentWBy (f sl) := by
  subst hs ht
  refine ⟨⟨by simp [modifyAt_length, hsim.len], ?_, ?_⟩, sumBy_modify f hsl, sumBy_modify f hsl⟩
  · intro j sl' tl' h1 h2
    rw [getElem?_modifyAt] at h1 h2
    by_cases hij : i = j
    · subst hij
      simp only [if_true, hsl, htl, Option.map_some, Option.some.injEq] at h1 h2
      subst h1; subst h2; exact hi
    · simp only [hij, if_false] at h1 h2
      exact (hsim.slots j sl' tl' h1 h2).mono (hp j (fun e => hij e.symm))
  · intro j hj
    rw [modifyAt_length]
    by_cases hij : i = j
    · exact hij ▸ (List.getElem?_eq_some_iff.1 hsl).1
    · exact hsim.wlen j (hp j (fun e => hij e.symm) hj)

def feedAll (t : SSt) : List Obs → Option SSt
  | [] => some t
  | o :: os => match feedChecked t o with
    | some t' => feedAll t' os
    | none => none

theorem feedAll_nil (t : SSt) : feedAll t [] = some t := rfl

theorem feedAll_append {t1 : SSt} {os : List Obs} (h : feedAll t os = some t1) (rest : List Obs) :
    feedAll t (os ++ rest) = feedAll t1 rest := by
  induction os generalizing t with
  | nil => cases h; rfl
  | cons o os ih =>
    simp only [List.cons_append, feedAll] at h ⊢
    cases hfc : feedChecked t o with
    | none => simp [hfc] at h
    | some t2 => simp only [hfc] at h ⊢; exact ih h

theorem acceptFrom_append (t : SSt) (os rest : List Obs) :
    acceptFrom t (os ++ rest) = match feedAll t os with
      | some t' => acceptFrom t' rest
      | none => false := by
  induction os generalizing t with
  | nil => rfl
  | cons o os ih =>
    simp only [List.cons_append, acceptFrom, feedAll]
    cases feedChecked t o with
    | none => rfl
    | some t' => exact ih t'

theorem pF_eq_zero {p : PPc} (h : pF p = 0) : p = .idle ∨ p = .done := by cases p <;> simp [pF] at h ⊢
theorem iF_eq_zero {p : IPc} (h : iF p = 0) : p = .idle ∨ p = .done := by cases p <;> simp [iF] at h ⊢
theorem lF_eq_zero {p : LPc} (h : lF p = 0) : p = .free := by cases p <;> simp [lF] at h ⊢
theorem lF_pos {p : LPc} (h : p ≠ .free) : lF p = 1 := by cases p <;> first | rfl | exact absurd rfl h

/-- **not late**: a specification state related to a model state with `Inv` passes the lateness check -/
theorem sim_not_due (hi : Inv s) (hs : Sim s w t) : (due t && t.apps = 0) = false := by
  cases hd : due t with
  | false => rfl
  | true =>
    simp only [due, Bool.and_eq_true, decide_eq_true_eq, Bool.or_eq_true] at hd
    obtain ⟨⟨h0, h1⟩, h2⟩ := hd
    have hinf := hs.infl
    have hw := sentW_le_sent s.slots
    have hfg := hs.fg
    have hq : inFlight s = false := by
      have hp := pF_eq_zero (p := s.pPc) (by omega)
      have hip := iF_eq_zero (p := s.iPc) (by omega)
      have hl := lF_eq_zero (p := s.lPc) (by omega)
      have h1 : s.nUp = 0 := by omega
      have h2 : s.nDec = 0 := by omega
      simp only [inFlight, any_sent_false (l := s.slots) (by omega), hl, h1, h2]
      rcases hp with hp | hp <;> rcases hip with hip | hip <;> simp [hp, hip]
    have := not_late_inv hi hq (hs.refs ▸ h1) (h2.imp (by omega) (hs.dge ▸ ·))
    simp [hs.apps, this]

theorem feedChecked_mid {t1 : SSt} {o : Obs} (hf : feed t o = some t1) (h : t1.inflight > 0 ∨ t1.apps ≠ 0) :
    feedChecked t o = some t1 := by
  have : (due t1 && t1.apps = 0) = false := by
    rcases h with h | h
    · simp only [due]
      have : decide (t1.inflight = 0) = false := by simp; omega
      simp [this]
    · simp [h]
  simp only [feedChecked, hf, this]
  rfl

theorem feedAll_cons {t1 : SSt} {o : Obs} (hf : feed t o = some t1) (h : t1.inflight > 0 ∨ t1.apps ≠ 0)
    (os : List Obs) : feedAll t (o :: os) = feedAll t1 os := by
  simp only [feedAll, feedChecked_mid hf h]

theorem feedAll_one {o : Obs} (hi : Inv s') (hf : feed t o = some t') (hs : Sim s' w' t') :
    feedAll t [o] = some t' := by
  simp only [feedAll, feedChecked, hf, sim_not_due hi hs]
  rfl

end KeepAlive
