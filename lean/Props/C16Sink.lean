import Model.Sinks
/-!
# C16 (sink level) — validation and I/O errors never stop a sink

For every tee tree, every entry sequence and every script of per-entry results / flush results:
each leaf stream is handed each entry exactly once, in order, and flushed after each entry,
whatever any stream returned.
-/
namespace Sinks

def firstErr : List Res → Res
  | [] => .ok
  | .ok :: rs => firstErr rs
  | r :: _ => r

theorem firstErr_append (a b : List Res) : firstErr (a ++ b) = (firstErr a).and (firstErr b) := by
  induction a with
  | nil => simp [firstErr, Res.and]
  | cons r rs ih => cases r <;> simp [firstErr, Res.and, ih]

/-- **C16: a tee hands the entry to every branch, whatever the branches return**, left to right,
and returns the first error. -/
theorem c16_tee_next (res : Nat → Nat → Res) (t : Tree) (e : Nat) (w : World) :
    (t.next res e w).1.log = w.log ++ t.leaves.map (fun i => (i, Call.next e)) ∧
    (t.next res e w).2 = firstErr (t.leaves.map (fun i => res i e)) := by
  induction t generalizing w with
  | leaf i => cases h : res i e <;> simp [Tree.next, Tree.leaves, firstErr, h]
  | tee l r ihl ihr =>
    simp only [Tree.next, Tree.leaves, List.map_append, firstErr_append]
    rw [(ihr _).1, (ihl _).1, (ihl _).2, (ihr _).2, List.append_assoc]
    exact ⟨rfl, rfl⟩

/-- **C16: a tee flushes every branch even if an earlier branch's flush failed.** -/
theorem c16_tee_flush (fres : Nat → Nat → Bool) (t : Tree) (w : World) :
    (t.flush fres w).1.log = w.log ++ t.leaves.map (fun i => (i, Call.flush)) := by
  induction t generalizing w with
  | leaf i => simp [Tree.flush, Tree.leaves]
  | tee l r ihl ihr =>
    simp only [Tree.flush, Tree.leaves, List.map_append]
    rw [ihr, ihl, List.append_assoc]

/-- what an error-free run looks like: per entry, one `next` per leaf then one `flush` per leaf -/
def idealLog (t : Tree) (es : List Nat) : List (Nat × Call) :=
  es.flatMap (fun e => t.leaves.map (fun i => (i, Call.next e)) ++ t.leaves.map (fun i => (i, Call.flush)))

theorem immediate_fold (res : Nat → Nat → Res) (fres : Nat → Nat → Bool) (t : Tree) (es : List Nat) (w : World) :
    (es.foldl (immediateAppend res fres t) w).log = w.log ++ idealLog t es := by
  induction es generalizing w with
  | nil => simp [idealLog]
  | cons e es ih =>
    simp only [List.foldl_cons]
    rw [ih]
    simp only [immediateAppend, c16_tee_flush, c16_tee_next, idealLog, List.flatMap_cons, List.append_assoc]

/-- **C16: neither validation nor I/O errors (of `next` or of `flush`) stop the immediate sink.**
For every result script the calls made are those of an error-free run: every leaf stream receives
every entry exactly once, in append order, and is flushed after each. -/
theorem c16_immediate_errors_local (res : Nat → Nat → Res) (fres : Nat → Nat → Bool) (t : Tree) (es : List Nat) :
    (immediateRun res fres t es).log = idealLog t es := by
  simp [immediateRun, immediate_fold]

/-- Corollary: two runs that differ only in the results the streams return make the same calls. -/
theorem c16_results_irrelevant (res res' : Nat → Nat → Res) (fres fres' : Nat → Nat → Bool) (t : Tree) (es : List Nat) :
    (immediateRun res fres t es).log = (immediateRun res' fres' t es).log := by
  rw [c16_immediate_errors_local, c16_immediate_errors_local]

/-- Single stream: the stream sees exactly the appended entries, in order, for any error script. -/
theorem c16_single_stream_sees_all (res : Nat → Nat → Res) (fres : Nat → Nat → Bool) (i : Nat) (es : List Nat) :
    (immediateRun res fres (.leaf i) es).nextsOf i = es := by
  unfold World.nextsOf
  rw [c16_immediate_errors_local]
  induction es with
  | nil => rfl
  | cons e es ih => simpa [idealLog, Tree.leaves] using ih

/-- Non-vacuity: three leaves, the first fails validation on entry 7, the second's flush fails:
all three still see both entries and the tee reports the validation error. -/
example :
    let res : Nat → Nat → Res := fun i e => if i == 0 && e == 7 then .validation else if i == 2 then .io else .ok
    let t := Tree.tee (.tee (.leaf 0) (.leaf 1)) (.leaf 2)
    (immediateRun res (fun i _ => i != 1) t [7, 8]).nextsOf 2 = [7, 8] ∧
    (t.next res 7 ⟨[]⟩).2 = .validation ∧ (t.next res 8 ⟨[]⟩).2 = .io := by
  decide

end Sinks

namespace Sinks.FmtBuf

/-- nothing accepted is ever lost, duplicated or reordered between buffer and wire -/
theorem run_conserves (w : W) (ops : List Op) :
    (run w ops).1.delivered ++ (run w ops).1.buf = w.delivered ++ w.buf ++ written ops := by
  induction ops generalizing w with
  | nil => simp [run, written]
  | cons op ops ih => rcases op with bs | _ | _ <;> simp [run, step, written, ih]

/-- every stream flush reaches the writer: the writer sees exactly as many `flush` calls as the stream -/
theorem run_flushCalls (w : W) (ops : List Op) :
    (run w ops).1.flushCalls = w.flushCalls + (ops.filter (fun o => match o with | .flush _ => true | _ => false)).length := by
  induction ops generalizing w with
  | nil => simp [run]
  | cons op ops ih => rcases op with bs | _ | _ <;> simp [run, step, ih] <;> omega

/-- results: `next` is `Ok`, `flush` returns what the writer's flush returned -/
theorem run_results (w : W) (ops : List Op) :
    (run w ops).2 = ops.map (fun o => match o with | .next _ => true | .flush ok => ok) := by
  induction ops generalizing w with
  | nil => simp [run]
  | cons op ops ih => rcases op with bs | _ | _ <;> simp [run, step, ih]

theorem run_append (w : W) (a b : List Op) : (run w (a ++ b)).1 = (run (run w a).1 b).1 := by
  induction a generalizing w with
  | nil => simp [run]
  | cons op a ih => simp only [List.cons_append, run]; exact ih _

theorem written_append (a b : List Op) : written (a ++ b) = written a ++ written b := by
  induction a with
  | nil => simp [written]
  | cons op a ih => cases op <;> simp [written, ih]

theorem immOps_append (a b : List (List Nat × Bool)) : immOps (a ++ b) = immOps a ++ immOps b := by
  induction a with
  | nil => simp [immOps]
  | cons e a ih => obtain ⟨x, y⟩ := e; simp [immOps, ih]

/-- **C16: a flush error is not sticky.** Whatever happened before (failed flushes included), after a
stream flush whose writer flush succeeds, everything accepted so far is on the wire and the buffer
is empty. -/
theorem c16_flush_after_error_delivers (ops : List Op) :
    (run init (ops ++ [.flush true])).1.buf = [] ∧
    (run init (ops ++ [.flush true])).1.delivered = written ops := by
  have h1 : (run init (ops ++ [.flush true])).1.buf = [] := by
    rw [run_append]; simp [run, step]
  have h := run_conserves init (ops ++ [.flush true])
  rw [h1] at h
  exact ⟨h1, by simpa [init, written_append, written] using h⟩

/-- the immediate sink over such a stream: after the last append whose flush succeeded nothing is
left behind, however many earlier flushes failed -/
theorem c16_imm_last_ok_delivers (es : List (List Nat × Bool)) (bs : List Nat) :
    (run init (immOps (es ++ [(bs, true)]))).1.delivered = written (immOps (es ++ [(bs, true)])) ∧
    (run init (immOps (es ++ [(bs, true)]))).1.buf = [] := by
  have := c16_flush_after_error_delivers (immOps es ++ [.next bs])
  rw [immOps_append]
  simp only [immOps, List.append_assoc, List.cons_append, List.nil_append] at this ⊢
  exact ⟨by rw [this.2]; simp [written_append, written], this.1⟩

/-- Witness that the statement has content: the "dirty flag" variant (flag cleared before the flush
result is known) leaves an accepted entry in the buffer after `next, flush ✗, flush ✓`, while the
modelled code delivers it. -/
example :
    let ops := [Op.next [1, 2, 3], .flush false, .flush true]
    (run init ops).1.delivered = [1, 2, 3] ∧ (run init ops).1.flushCalls = 2 ∧
    ((ops.foldl (fun s o => (stepDirty s o).1) (init, false)).1.delivered = [] ∧
     (ops.foldl (fun s o => (stepDirty s o).1) (init, false)).1.buf = [1, 2, 3]) := by
  decide

end Sinks.FmtBuf

#print axioms Sinks.c16_tee_next
#print axioms Sinks.c16_tee_flush
#print axioms Sinks.c16_immediate_errors_local
#print axioms Sinks.c16_results_irrelevant
#print axioms Sinks.c16_single_stream_sees_all
#print axioms Sinks.FmtBuf.run_conserves
#print axioms Sinks.FmtBuf.run_flushCalls
#print axioms Sinks.FmtBuf.run_results
#print axioms Sinks.FmtBuf.c16_flush_after_error_delivers
#print axioms Sinks.FmtBuf.c16_imm_last_ok_delivers
