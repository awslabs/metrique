import Model.Wrappers
/-!
# C15 — entry and value wrappers are transparent apart from their documented additions

`Model/Wrappers.lean` transcribes every wrapper's `impl Entry` / `impl Value` operationally (writer
transformers, the double-dispatch bridge of `BoxEntry`, `Option::take`, `SmallVec` collects, deny list,
flag merge, the empty-dimension shortcut of `MergeGlobalDimensions`).  Here that operational model is
proved equal to the specification — plain list functions on call logs — for **every** entry, **every**
(lawful) writer and **every** composition of wrappers, with no bound on sizes or nesting depth.

A writer is *lawful* when it uses a value only through `Value::write` (Rust's type system enforces this:
an `impl EntryWriter` receives `&impl Value`, about which it knows nothing else).
-/
namespace Wrappers

theorem foldl_push {α : Type} (l acc : List α) : l.foldl (fun sv x => sv ++ [x]) acc = acc ++ l := by
  induction l generalizing acc with
  | nil => simp
  | cons x xs ih => simp [ih]

@[simp] theorem collect_eq {α : Type} (l : List α) : collect l = l := foldl_push l []

@[simp] theorem apply_recVW : VCall.apply recVW = id := by
  funext c; cases c <;> rfl

theorem apply_dimsVW {ρ : Type} (d : Dims) (w : VWriter ρ) :
    VCall.apply (dimsVW d w) = VCall.apply w ∘ VCall.addDims d := by
  funext c; cases c <;> rfl

theorem apply_globalDimsVW {ρ : Type} (d : Dims) (w : VWriter ρ) :
    VCall.apply (globalDimsVW d w) = VCall.apply w ∘ VCall.addDims d := by
  funext c; cases c <;> rfl

/-- "Flags merged": `try_merge` is the join of the chain `none < HighStorageResolution < NoMetric` —
commutative, associative, idempotent, with `none` neutral — so the order and number of `ForceFlag`
layers never matters and a forced flag never weakens a value's own flag. -/
theorem c15_try_merge_is_join (a b c : Flags) :
    tryMerge a b = joinFlags a b ∧ tryMerge a b = tryMerge b a ∧
    tryMerge (tryMerge a b) c = tryMerge a (tryMerge b c) ∧ tryMerge a a = a ∧
    tryMerge a none = a ∧ tryMerge none a = a := by
  -- only associativity involves `c`
  rcases a with _ | _ | _ <;> rcases b with _ | _ | _ <;> refine ⟨rfl, rfl, ?_, rfl, rfl, rfl⟩ <;>
    rcases c with _ | _ | _ <;> rfl

theorem apply_flagVW {ρ : Type} (f : Flags) (w : VWriter ρ) :
    VCall.apply (flagVW f w) = VCall.apply w ∘ VCall.forceFlag f := by
  funext c
  cases c with
  | metric m => simp [VCall.apply, flagVW, VCall.forceFlag, (c15_try_merge_is_join _ _ none).1]
  | _ => rfl

theorem apply_bridge {ρ : Type} (w : VWriter ρ) (c : VCall) :
    VCall.apply (fromDynVW toDynVW ({ slot := some w, out := none, panicked := false } : ToDyn ρ)) c
      = { slot := none, out := some (VCall.apply w c), panicked := false } := by
  cases c <;> simp [VCall.apply, fromDynVW, toDynVW]

theorem apply_spec {ρ : Type} (fmt : Fmt) (c : Option VCall) (w : VWriter ρ) :
    fmt.apply c w = (Fmt.spec fmt c).map (VCall.apply w) := by
  cases fmt with
  | id => rfl
  | count => rcases c with _ | _ | _ | _ <;> rfl

theorem format_eq {ρ : Type} (fmt : Fmt) (v : Val) (w : VWriter ρ) :
    Val.format fmt v w = (v.plain.bind (Fmt.spec fmt)).map (VCall.apply w) := by
  induction v with
  | leaf c => exact apply_spec fmt c w
  | ref v ih | box v ih | arc v ih | cow v ih | optSome v ih => exact ih
  | _ => rfl

/-- **C15 (values), full strength.** For every value, however wrapped, and every `ValueWriter`: the
writer receives exactly the call given by the specification `Val.spec` (containers and the dyn bridge:
identity; `Option::None`: nothing; `WithDimensions`: dimensions appended after the existing ones;
`ForceFlag`: flags joined; `FormattedValue`: the formatter applied to the plain value under the
containers) — or no call at all. -/
theorem c15_value_transparent (v : Val) {ρ : Type} (w : VWriter ρ) :
    v.write w = v.spec.map (VCall.apply w) := by
  induction v generalizing ρ with
  | leaf c | optNone => rfl
  | ref v ih | box v ih | arc v ih | cow v ih | optSome v ih => exact ih w
  | withDims v d ih => simp only [Val.write, Val.spec, ih, apply_dimsVW, Option.map_map]
  | globalDims v d ih => simp only [Val.write, Val.spec, ih, apply_globalDimsVW, Option.map_map]
  | forceFlag v f ih => simp only [Val.write, Val.spec, ih, apply_flagVW, Option.map_map]
  | dyn v ih =>
    simp only [Val.write, Val.spec, ih]
    cases v.spec <;> simp [apply_bridge]
  | formatted fmt v => exact format_eq fmt v w

theorem sem_eq_spec (v : Val) : v.sem = v.spec := by
  simp [Val.sem, c15_value_transparent]

/-- The `take().unwrap()` of `ValueWriterToDyn` never hits `None`: no value, however wrapped, makes
the bridge panic. -/
theorem c15_dyn_never_panics (v : Val) : v.dynPanics = false := by
  simp only [Val.dynPanics, c15_value_transparent]
  cases v.spec <;> simp [apply_bridge]

/-- Per-value dimensions go AFTER the existing ones; strings, errors and empty values are untouched. -/
theorem c15_value_dims_after_existing (v : Val) (d : Dims) :
    (Val.withDims v d).sem = v.sem.map (VCall.addDims d) := by
  rw [sem_eq_spec, sem_eq_spec]; rfl

/-- Forced flags are merged (join of `none < HighStorageResolution < NoMetric`) with the value's own. -/
theorem c15_value_flags_merged (v : Val) (f : Flags) :
    (Val.forceFlag v f).sem = v.sem.map (VCall.forceFlag f) := by
  rw [sem_eq_spec, sem_eq_spec]; rfl

/-- `&`, `Box`, `Arc`, `Cow`, `Some` and the dyn bridge change nothing; `None` writes nothing. -/
theorem c15_value_containers_id (v : Val) :
    (Val.ref v).sem = v.sem ∧ (Val.box v).sem = v.sem ∧ (Val.arc v).sem = v.sem ∧
    (Val.cow v).sem = v.sem ∧ (Val.optSome v).sem = v.sem ∧ (Val.dyn v).sem = v.sem ∧
    Val.optNone.sem = none := by
  simp only [sem_eq_spec, Val.spec, and_self]

/-- A lifted formatter sees the plain value under any stack of containers, and nothing under a `None`. -/
theorem c15_formatted_lifted (fmt : Fmt) (v : Val) :
    (Val.formatted fmt v).sem = v.plain.bind (Fmt.spec fmt) := by
  rw [sem_eq_spec]; rfl

theorem applyAllV_append (ws : List VWrapper) (w : VWrapper) (v : Val) :
    applyAllV (ws ++ [w]) v = w.apply (applyAllV ws v) := by
  simp [applyAllV]

/-- A writer that uses a value only through `Value::write`: values that make the same call are
interchangeable. -/
def EWriter.Lawful {σ : Type} (w : EWriter σ) : Prop :=
  ∀ s n v v', v.sem = v'.sem → w.value s n v = w.value s n v'

def replayCall {σ : Type} (w : EWriter σ) (s : σ) : Call → σ
  | .ts t => w.timestamp s t
  | .cfg c => w.config s c
  | .val n c => w.value s n (Val.leaf c)

def replay {σ : Type} (w : EWriter σ) (log : Log) (s : σ) : σ := log.foldl (replayCall w) s

@[simp] theorem replay_nil {σ : Type} (w : EWriter σ) (s : σ) : replay w [] s = s := rfl

theorem replay_append {σ : Type} (w : EWriter σ) (a b : Log) (s : σ) :
    replay w (a ++ b) s = replay w b (replay w a s) := by
  simp [replay, List.foldl_append]

@[simp] theorem leaf_sem (c : Option VCall) : (Val.leaf c).sem = c := sem_eq_spec _

theorem recEW_lawful : recEW.Lawful := by
  intro s n v v' h; simp [recEW, h]

theorem replay_rec (log acc : Log) : replay recEW log acc = acc ++ log := by
  have : replayCall recEW = fun acc c => acc ++ [c] := by
    funext acc c; cases c <;> simp [replayCall, recEW]
  rw [replay, this, foldl_push]

/-- The generic shape of every writer wrapper: forwards `timestamp`/`config`, maps the value. -/
def mapEW {σ : Type} (g : Str → Val → Val) (w : EWriter σ) : EWriter σ where
  timestamp s t := w.timestamp s t
  value s n v := w.value s n (g n v)
  config s c := w.config s c

def Semantic (g : Str → Val → Val) (g' : Str → VCall → VCall) : Prop :=
  ∀ n v, (g n v).sem = v.sem.map (g' n)

theorem mapEW_lawful {σ : Type} {g : Str → Val → Val} {g' : Str → VCall → VCall}
    (hg : Semantic g g') {w : EWriter σ} (hw : w.Lawful) : (mapEW g w).Lawful := by
  intro s n v v' h
  apply hw
  rw [hg, hg, h]

theorem replay_mapEW {σ : Type} {g : Str → Val → Val} {g' : Str → VCall → VCall}
    (hg : Semantic g g') {w : EWriter σ} (hw : w.Lawful) (log : Log) (s : σ) :
    replay (mapEW g w) log s = replay w (log.map (Call.mapVal g')) s := by
  rw [replay, replay, List.foldl_map]
  congr 1; funext s c
  cases c with
  | val n c => exact hw _ _ _ _ (by rw [hg]; simp)
  | _ => rfl

theorem sem_boxed : Semantic (fun _ v => Val.dyn v) (fun _ c => c) := by
  intro n v; simp [sem_eq_spec, Val.spec]

theorem sem_globalDims (d : Dims) (deny : List Str) :
    Semantic (fun n v => if deny.contains n then v else Val.globalDims v d)
      (fun n c => if n ∈ deny then c else VCall.addDims d c) := by
  intro n v
  by_cases h : n ∈ deny <;> simp [h, sem_eq_spec, Val.spec]

theorem boxedEW_eq {σ : Type} (w : EWriter σ) :
    fromDynEW (toDynEW (refMutEW w)) = mapEW (fun _ v => Val.dyn v) w := rfl
theorem dimsEW_eq {σ : Type} (d : Dims) (w : EWriter σ) :
    dimsEW d (refMutEW w) = mapEW (fun _ v => Val.withDims v d) w := rfl
theorem flagEW_eq {σ : Type} (f : Flags) (w : EWriter σ) :
    flagEW f w = mapEW (fun _ v => Val.forceFlag (Val.ref v) f) w := rfl
theorem globalDimsEW_eq {σ : Type} (d : Dims) (deny : List Str) (w : EWriter σ) :
    globalDimsEW d deny (refMutEW w)
      = mapEW (fun n v => if deny.contains n then v else Val.globalDims v d) w := by
  simp only [globalDimsEW, refMutEW, mapEW]
  congr 1
  funext s n v
  split <;> rfl

theorem mapVal_id {g : Str → VCall → VCall} (hg : ∀ n c, g n c = c) (l : Log) :
    l.map (Call.mapVal g) = l := by
  have : Call.mapVal g = id := by
    funext c; rcases c with _ | _ | ⟨_, _ | _⟩ <;> simp [Call.mapVal, hg]
  rw [this, List.map_id]

def Writes (e : Ent) (l : Log) : Prop :=
  ∀ ⦃σ : Type⦄ (w : EWriter σ), w.Lawful → ∀ s, e.write w s = replay w l s

def Item.call : Item → Call
  | .timestamp t => .ts t
  | .config c => .cfg c
  | .value n v => .val n v.sem

namespace Writes

theorem log {e : Ent} {l : Log} (h : Writes e l) : e.log = l := by
  simpa [Ent.log, replay_rec] using h recEW recEW_lawful []

theorem self {e : Ent} {l : Log} (h : Writes e l) : Writes e e.log := h.log ▸ h

theorem base (items : List Item) (sg : Dims) : Writes (.base items sg) (items.map Item.call) := by
  intro σ w hw s
  rw [replay, List.foldl_map]
  show items.foldl (writeItem w) s = _
  congr 1; funext s it
  cases it with
  | value n v => exact hw _ _ _ _ (by simp)
  | _ => rfl

theorem merged {a b : Ent} {la lb : Log} (ha : Writes a la) (hb : Writes b lb) :
    Writes (.merged a b) (la ++ lb) ∧ Writes (.mergedRef a b) (la ++ lb) := by
  constructor <;> intro σ w hw s <;> simp only [Ent.write, replay_append, ha w hw, hb w hw]

theorem map {e e' : Ent} {l : Log} {g : Str → Val → Val} {g' : Str → VCall → VCall}
    (h : Writes e l) (hg : Semantic g g')
    (he' : ∀ {σ : Type} (w : EWriter σ) s, e'.write w s = e.write (mapEW g w) s) :
    Writes e' (l.map (Call.mapVal g')) := by
  intro σ w hw s
  rw [he', h _ (mapEW_lawful hg hw), replay_mapEW hg hw]

theorem boxed {e : Ent} {l : Log} (h : Writes e l) : Writes (.boxed e) l :=
  mapVal_id (fun _ _ => rfl) l ▸ h.map sem_boxed fun _ _ => rfl

theorem withDims {e : Ent} {l : Log} (h : Writes e l) (d : Dims) :
    Writes (.withDims e d) (l.map (Call.mapVal fun _ => VCall.addDims d)) :=
  h.map (fun _ v => c15_value_dims_after_existing v d) fun _ _ => rfl

theorem globalDims {e : Ent} {l : Log} (h : Writes e l) (d : Dims) (deny : List Str) :
    Writes (.globalDims e d deny)
      (l.map (Call.mapVal fun n c => if n ∈ deny then c else VCall.addDims d c)) :=
  h.map (sem_globalDims d deny) fun w s => by rw [Ent.write, globalDimsEW_eq]

theorem forceFlag {e : Ent} {l : Log} (h : Writes e l) (f : Flags) :
    Writes (.forceFlag e f) (l.map (Call.mapVal fun _ => VCall.forceFlag f)) :=
  h.map (fun _ v => c15_value_flags_merged (.ref v) f) fun _ _ => rfl

end Writes

theorem write_eq_replay (e : Ent) : Writes e e.log := by
  induction e with
  | base items sg => exact (Writes.base items sg).self
  | boxed e ih => exact ih.boxed.self
  | merged a b iha ihb => exact (iha.merged ihb).1.self
  | mergedRef a b iha ihb => exact (iha.merged ihb).2.self
  | withDims e d ih => exact (ih.withDims d).self
  | globalDims e d deny ih => exact (ih.globalDims d deny).self
  | forceFlag e f ih => exact (ih.forceFlag f).self
  | ref e ih | box e ih | arc e ih | cow e ih | optSome e ih | root e ih => exact ih
  | optNone => exact fun _ _ _ _ => rfl

/-- `BoxEntry`: the double-dispatch bridge (entry writer to dyn and back, value to dyn and back, the
`SmallVec` collects, config forwarding) is the identity on the call log and on the sample group. The
sample group is collected from the inner group as a list, whatever the inner iterator's size hint. -/
theorem c15_boxed_id (e : Ent) :
    (Ent.boxed e).log = e.log ∧ (Ent.boxed e).sampleGroup = e.sampleGroup :=
  ⟨(write_eq_replay e).boxed.log, collect_eq _⟩

/-- `Merged` / `MergedRef`: first entry's calls, then the second's; sample groups chained the same way. -/
theorem c15_merged_append (a b : Ent) :
    (Ent.merged a b).log = a.log ++ b.log ∧ (Ent.mergedRef a b).log = a.log ++ b.log ∧
    (Ent.merged a b).sampleGroup = a.sampleGroup ++ b.sampleGroup ∧
    (Ent.mergedRef a b).sampleGroup = a.sampleGroup ++ b.sampleGroup :=
  have h := (write_eq_replay a).merged (write_eq_replay b)
  ⟨h.1.log, h.2.log, rfl, rfl⟩

/-- `WithDimensions<E, N>` as an entry: every metric gets the extra dimensions AFTER its existing
ones; timestamps, configs, names, strings, errors, empty values and the sample group are untouched. -/
theorem c15_dims_after_existing (e : Ent) (d : Dims) :
    (Ent.withDims e d).log = e.log.map (Call.mapVal fun _ => VCall.addDims d) ∧
    (Ent.withDims e d).sampleGroup = e.sampleGroup :=
  ⟨((write_eq_replay e).withDims d).log, rfl⟩

/-- `WithGlobalDimensions<E, N>`: as above except for values whose NAME is on the deny list, which
pass through unchanged (the deny list is never applied to dimension keys or values). -/
theorem c15_global_dims_deny (e : Ent) (d : Dims) (deny : List Str) :
    (Ent.globalDims e d deny).log
      = e.log.map (Call.mapVal fun n c => if n ∈ deny then c else VCall.addDims d c) ∧
    (Ent.globalDims e d deny).sampleGroup = e.sampleGroup :=
  ⟨((write_eq_replay e).globalDims d deny).log, rfl⟩

/-- `ForceFlag<E, FLAGS>` as an entry: every metric's flags are joined with the forced flag. -/
theorem c15_flags_merged (e : Ent) (f : Flags) :
    (Ent.forceFlag e f).log = e.log.map (Call.mapVal fun _ => VCall.forceFlag f) ∧
    (Ent.forceFlag e f).sampleGroup = e.sampleGroup :=
  ⟨((write_eq_replay e).forceFlag f).log, rfl⟩

/-- `&E`, `Box<E>`, `Arc<E>`, `Cow<E>`, `Some(e)` and `RootEntry` are the identity on log and sample
group; `None::<E>` writes nothing and has the empty sample group. -/
theorem c15_containers_id (e : Ent) :
    ((Ent.ref e).log = e.log ∧ (Ent.box e).log = e.log ∧ (Ent.arc e).log = e.log ∧
     (Ent.cow e).log = e.log ∧ (Ent.optSome e).log = e.log ∧ (Ent.root e).log = e.log ∧
     Ent.optNone.log = []) ∧
    ((Ent.ref e).sampleGroup = e.sampleGroup ∧ (Ent.box e).sampleGroup = e.sampleGroup ∧
     (Ent.arc e).sampleGroup = e.sampleGroup ∧ (Ent.cow e).sampleGroup = e.sampleGroup ∧
     (Ent.optSome e).sampleGroup = e.sampleGroup ∧ (Ent.root e).sampleGroup = e.sampleGroup ∧
     Ent.optNone.sampleGroup = []) :=
  ⟨⟨rfl, rfl, rfl, rfl, rfl, rfl, rfl⟩, rfl, rfl, rfl, rfl, rfl, rfl, rfl⟩

theorem wrapper_log (w : Wrapper) (e : Ent) : (w.apply e).log = w.specLog e.log := by
  cases w with
  | boxed => exact (c15_boxed_id e).1
  | mergeAfter o => exact (c15_merged_append e o).1
  | mergeBefore o => exact (c15_merged_append o e).1
  | mergeRefAfter o => exact (c15_merged_append e o).2.1
  | mergeRefBefore o | streamMergeGlobals o => exact (c15_merged_append o e).2.1
  | withDims d => exact (c15_dims_after_existing e d).1
  | globalDims d deny => exact (c15_global_dims_deny e d deny).1
  | forceFlag f => exact (c15_flags_merged e f).1
  | ref | box | arc | cow | optSome | optNone | root => rfl
  | streamGlobalDims d deny =>
    cases d with
    | nil =>
      -- the empty-dimension shortcut agrees with the general path
      exact (mapVal_id (fun n c => by cases c <;> simp [VCall.addDims]) e.log).symm
    | cons p d => exact (c15_global_dims_deny (Ent.ref e) (p :: d) deny).1
  | streamForceFlag f => exact (c15_flags_merged (Ent.ref e) f).1

theorem wrapper_sg (w : Wrapper) (e : Ent) : (w.apply e).sampleGroup = w.specSG e.sampleGroup := by
  cases w with
  | boxed => exact collect_eq _
  | streamGlobalDims d deny => cases d <;> rfl
  | _ => rfl

/-- The stream adapters: `MergeGlobals` puts the global fields FIRST; `MergeGlobalDimensions` (with or
without its empty-dimension shortcut) appends the global dimensions except on deny-listed names;
a `ForceFlag` stream joins flags. All three preserve the entry's sample group (globals' first). -/
theorem c15_stream_adapters (e g : Ent) (d : Dims) (deny : List Str) (f : Flags) :
    ((Wrapper.streamMergeGlobals g).apply e).log = g.log ++ e.log ∧
    ((Wrapper.streamGlobalDims d deny).apply e).log
      = e.log.map (Call.mapVal fun n c => if n ∈ deny then c else VCall.addDims d c) ∧
    ((Wrapper.streamGlobalDims [] deny).apply e).log = e.log ∧
    ((Wrapper.streamForceFlag f).apply e).log = e.log.map (Call.mapVal fun _ => VCall.forceFlag f) ∧
    ((Wrapper.streamMergeGlobals g).apply e).sampleGroup = g.sampleGroup ++ e.sampleGroup ∧
    ((Wrapper.streamGlobalDims d deny).apply e).sampleGroup = e.sampleGroup ∧
    ((Wrapper.streamForceFlag f).apply e).sampleGroup = e.sampleGroup :=
  ⟨wrapper_log _ e, wrapper_log _ e, rfl, wrapper_log _ e, wrapper_sg _ e, wrapper_sg _ e, wrapper_sg _ e⟩

/-- The recording writer's view of `c15_compose`: the call log of the composition is the composition
of the specifications applied to the plain entry's call log. -/
theorem c15_compose_log (ws : List Wrapper) (e : Ent) : (applyAll ws e).log = specLogAll ws e.log := by
  induction ws generalizing e with
  | nil => rfl
  | cons w rest ih => exact (ih _).trans (congrArg _ (wrapper_log w e))

/-- **C15, full strength.** For every plain or already wrapped entry `e`, every list of wrappers `ws`
(any kinds, any order, any depth), every lawful writer `w` and every writer state `s`: writing the
wrapped entry to `w` performs on `w` exactly the call sequence obtained from the entry's own call log
by the wrappers' list-function specifications, in order. -/
theorem c15_compose (ws : List Wrapper) (e : Ent) {σ : Type} (w : EWriter σ) (hw : w.Lawful) (s : σ) :
    (applyAll ws e).write w s = replay w (specLogAll ws e.log) s := by
  rw [write_eq_replay _ w hw, c15_compose_log]

/-- Sample groups are preserved in the same way, for every composition.

The sample group of a wrapper is a function of the inner group **as a list** (`Ent.sampleGroup : Ent →
Dims`): the `size_hint()` of the Rust iterator that produces the inner group is deliberately NOT an
input of the model, so transparency holds however lazily the inner entry builds its group (`filter`,
`flatten`, `from_fn`, the per-variant iterator enum of `#[metrics] enum`, …).  An implementation that
looks at the size hint is a different function; `c15_size_hint_variant_not_transparent` below shows that the
obvious one (skip the collect when the lower bound is 0) violates this theorem. -/
theorem c15_compose_sample_group (ws : List Wrapper) (e : Ent) :
    (applyAll ws e).sampleGroup = specSGAll ws e.sampleGroup := by
  induction ws generalizing e with
  | nil => rfl
  | cons w rest ih => exact (ih _).trans (congrArg _ (wrapper_sg w e))

/-- The call made by a value under any stack of value wrappers, on any writer, is `Val.spec` of the wrapped value
applied to that writer (`c15_value_transparent` at the wrapped value). -/
theorem c15_value_compose (ws : List VWrapper) (v : Val) {ρ : Type} (w : VWriter ρ) :
    (applyAllV ws v).write w = (applyAllV ws v).spec.map (VCall.apply w) :=
  c15_value_transparent _ w

/-- the part of a call no dimension / flag / container wrapper may alter -/
def Call.skeleton : Call → Call
  | .val n (some (.metric m)) => .val n (some (.metric { m with dims := [], flags := none }))
  | c => c

def Wrapper.isTransformer : Wrapper → Bool
  | .mergeAfter _ | .mergeBefore _ | .mergeRefAfter _ | .mergeRefBefore _ | .streamMergeGlobals _ | .optNone => false
  | _ => true

theorem skeleton_mapVal (g : Str → VCall → VCall)
    (hg : ∀ n c, Call.skeleton (.val n (some (g n c))) = Call.skeleton (.val n (some c))) (l : Log) :
    (l.map (Call.mapVal g)).map Call.skeleton = l.map Call.skeleton := by
  rw [List.map_map]
  refine List.map_congr_left fun c _ => ?_
  cases c with
  | val n c =>
    cases c with
    | none => rfl
    | some c => exact hg n c
  | _ => rfl

theorem skeleton_addDims (d : Dims) (n : Str) (c : VCall) :
    Call.skeleton (.val n (some (c.addDims d))) = Call.skeleton (.val n (some c)) := by
  cases c <;> rfl

theorem skeleton_forceFlag (f : Flags) (n : Str) (c : VCall) :
    Call.skeleton (.val n (some (c.forceFlag f))) = Call.skeleton (.val n (some c)) := by
  cases c <;> rfl

/-- Every wrapper other than a merge or `None` keeps the number and order of calls, every timestamp,
config and name, every string, error and empty value, and every metric's observations (bit for bit)
and unit; only dimensions and flags of metrics may differ. -/
theorem c15_transformers_keep_skeleton (w : Wrapper) (h : w.isTransformer = true) (l : Log) :
    (w.specLog l).map Call.skeleton = l.map Call.skeleton := by
  cases w with
  | mergeAfter | mergeBefore | mergeRefAfter | mergeRefBefore | streamMergeGlobals | optNone => cases h
  | withDims d => exact skeleton_mapVal _ (skeleton_addDims d) l
  | globalDims d deny | streamGlobalDims d deny =>
    refine skeleton_mapVal _ (fun n c => ?_) l
    split
    · rfl
    · exact skeleton_addDims d n c
  | forceFlag f | streamForceFlag f => exact skeleton_mapVal _ (skeleton_forceFlag f) l
  | boxed | ref | box | arc | cow | optSome | root => rfl

/-- A concrete entry: timestamp, config, a metric with a two-observation distribution, its own
dimension and the high-resolution flag, a string, an error value, an empty value; sample group of one
pair.  Under `WithDimensions`, `BoxEntry`, `ForceFlag(NoMetric)`, `WithGlobalDimensions` (deny list
naming the metric) and `MergeGlobals`, the log is as documented. -/
def exEntry : Ent :=
  .base [.timestamp 5, .config [83],
         .value [65] (.leaf (some (.metric ⟨[.u 1, .f 4607182418800017408], [110], [([107], [118])], some .high⟩))),
         .value [66] (.leaf (some (.string [97]))),
         .value [67] (.leaf (some (.error [98]))),
         .value [68] (.leaf none)]
        [([111], [112])]

def exGlobals : Ent := .base [.value [90] (.leaf (some (.string [122])))] [([113], [114])]

example :
    (applyAll [.withDims [([97], [98])], .boxed, .forceFlag (some .noMetric), .globalDims [([99], [100])] [[65]],
               .streamMergeGlobals exGlobals] exEntry).log
      = [.val [90] (some (.string [122])), .ts 5, .cfg [83],
         .val [65] (some (.metric ⟨[.u 1, .f 4607182418800017408], [110], [([107], [118]), ([97], [98])], some .noMetric⟩)),
         .val [66] (some (.string [97])), .val [67] (some (.error [98])), .val [68] none] ∧
    (applyAll [.withDims [([97], [98])], .boxed, .forceFlag (some .noMetric), .globalDims [([99], [100])] [[65]],
               .streamMergeGlobals exGlobals] exEntry).sampleGroup
      = [([113], [114]), ([111], [112])] := by
  decide

/-- an empty forced flag keeps `NoMetric`; a real one below an empty one still applies -/
example :
    (applyAllV [.forceFlag (some .noMetric), .forceFlag none, .forceFlag (some .high), .forceFlag none]
      (.leaf (some (.metric ⟨[.u 7], [110], [], none⟩)))).sem
      = some (.metric ⟨[.u 7], [110], [], some .noMetric⟩) := by
  decide

/-- `recEW` is a lawful writer, so `c15_compose` is not vacuous; and a value under
`Some(Arc(ForceFlag(WithDimensions(·))))` through the dyn bridge makes the documented call. -/
example : recEW.Lawful := recEW_lawful

example :
    (applyAllV [.withDims [([97], [98])], .forceFlag (some .high), .arc, .optSome, .dyn]
      (.leaf (some (.metric ⟨[.u 7], [110], [([107], [118])], none⟩)))).sem
      = some (.metric ⟨[.u 7], [110], [([107], [118]), ([97], [98])], some .high⟩) := by
  decide

theorem forceFlag_none (c : VCall) : VCall.forceFlag none c = c := by
  rcases c with _ | ⟨_, _, _, _ | _ | _⟩ | _ <;> rfl

/-- A `ForceFlag` whose `FlagConstructor` yields `MetricFlags::empty()` (a switched-off flag) is
transparent at value, entry and stream level: whatever flags the wrapped thing already carries —
none, `HighStorageResolution`, `NoMetric` — survive unchanged. -/
theorem c15_force_empty_flags_id (v : Val) (e : Ent) :
    (Val.forceFlag v none).sem = v.sem ∧ (Ent.forceFlag e none).log = e.log ∧
    ((Wrapper.streamForceFlag none).apply e).log = e.log := by
  refine ⟨?_, ?_, ?_⟩
  · rw [c15_value_flags_merged]; cases v.sem <;> simp [forceFlag_none]
  · exact (c15_flags_merged e none).1.trans (mapVal_id (fun _ => forceFlag_none) _)
  · exact (wrapper_log _ e).trans (mapVal_id (fun _ => forceFlag_none) _)

/-- A variant of `DynEntry::sample_group` that takes the iterator's `size_hint()` lower bound as an extra
input and returns the empty group when it is 0 ("most entries keep the default group"). -/
def boxedSampleGroupWithHint (lowerBound : Nat) (inner : Dims) : Dims :=
  if lowerBound = 0 then [] else collect inner

/-- Witness: for a one-pair group produced by a lazy iterator (lower bound 0) the variant differs from
what `c15_boxed_id` / `c15_compose_sample_group` require of `BoxEntry` — it is not transparent;
with an exact hint it agrees, which is why exact-size test entries cannot see it. -/
theorem c15_size_hint_variant_not_transparent :
    boxedSampleGroupWithHint 0 [([111], [112])] ≠ (Ent.boxed (.base [] [([111], [112])])).sampleGroup ∧
    boxedSampleGroupWithHint 1 [([111], [112])] = (Ent.boxed (.base [] [([111], [112])])).sampleGroup := by
  decide

theorem stackNext_eq (as : List Adapter) (r : RecStream) (e : Ent) :
    stackNext as r e
      = (as, (r.next (applyAll (as.map Adapter.toWrapper) e)).1,
             (r.next (applyAll (as.map Adapter.toWrapper) e)).2) := by
  induction as generalizing e with
  | nil => rfl
  | cons a rest ih =>
    -- `MergeGlobalDimensions` branches on whether its dimensions are empty, as its wrapper does
    rcases a with g | ⟨_ | _, deny⟩ | f <;> simp only [stackNext, Adapter.call, ih] <;> rfl

/-- what the stateless specification says the recording stream sees of entry `e` under adapters `as` -/
def adapterSpec (as : List Adapter) (e : Ent) : Log × Dims :=
  (specLogAll (as.map Adapter.toWrapper) e.log, specSGAll (as.map Adapter.toWrapper) e.sampleGroup)

theorem runSeq_eq (as : List Adapter) (r : RecStream) (es : List Ent) :
    runSeq as r es
      = (as, { seen := r.seen ++ es.map (adapterSpec as), script := r.script.drop es.length },
         scriptResults es.length r.script) := by
  induction es generalizing r with
  | nil => simp [runSeq, scriptResults]
  | cons e es ih =>
    simp only [runSeq, stackNext_eq, ih, RecStream.next, List.map_cons, List.length_cons, scriptResults,
      adapterSpec, c15_compose_log, c15_compose_sample_group]
    simp [List.append_assoc]

/-- **C15 for long-lived adapters (history independence).** For every stack of stream / format
adapters (`MergeGlobals`, `MergeGlobalDimensions` incl. its empty-dimension shortcut, `ForceFlag`
stream, nested in any order), every sequence of entries pushed through the SAME instance and every
script of results (`Ok` / `Validation` / `Io`) of the stream below: the adapters' fields are unchanged
at the end, the `i`-th entry reaches the stream below exactly as the stateless specification says —
independently of every earlier entry and of every earlier result — and the results are passed up
unchanged. -/
theorem c15_adapters_history_independent (as : List Adapter) (script : List IoRes) (es : List Ent) :
    (runSeq as ⟨[], script⟩ es).1 = as ∧
    (runSeq as ⟨[], script⟩ es).2.1.seen = es.map (adapterSpec as) ∧
    (∀ i : Nat, (runSeq as ⟨[], script⟩ es).2.1.seen[i]? = es[i]?.map (adapterSpec as)) ∧
    (runSeq as ⟨[], script⟩ es).2.2 = scriptResults es.length script := by
  rw [runSeq_eq]
  refine ⟨rfl, by simp, fun i => by simp, rfl⟩

/-- Non-vacuity: `MergeGlobalDimensions` (outermost) over `MergeGlobals`; the first entry is rejected
with a validation error, the second with an io error; the third still gets globals and dimensions. -/
example :
    let m : VCall := .metric ⟨[.u 1], [110], [], none⟩
    let e : Ent := .base [.value [65] (.leaf (some m))] []
    (runSeq [.globalDims [([99], [100])] [], .mergeGlobals exGlobals] ⟨[], [.validation, .io]⟩ [e, e, e]).2.1.seen[2]?
      = some ([.val [90] (some (.string [122])),
               .val [65] (some (.metric ⟨[.u 1], [110], [([99], [100])], none⟩))], [([113], [114])]) ∧
    (runSeq [.globalDims [([99], [100])] [], .mergeGlobals exGlobals] ⟨[], [.validation, .io]⟩ [e, e, e]).2.2
      = [.validation, .io, .ok] := by
  decide

end Wrappers

#print axioms Wrappers.c15_value_transparent
#print axioms Wrappers.c15_dyn_never_panics
#print axioms Wrappers.c15_try_merge_is_join
#print axioms Wrappers.c15_value_dims_after_existing
#print axioms Wrappers.c15_value_flags_merged
#print axioms Wrappers.c15_value_containers_id
#print axioms Wrappers.c15_formatted_lifted
#print axioms Wrappers.c15_boxed_id
#print axioms Wrappers.c15_merged_append
#print axioms Wrappers.c15_dims_after_existing
#print axioms Wrappers.c15_global_dims_deny
#print axioms Wrappers.c15_flags_merged
#print axioms Wrappers.c15_containers_id
#print axioms Wrappers.c15_stream_adapters
#print axioms Wrappers.c15_compose
#print axioms Wrappers.c15_compose_log
#print axioms Wrappers.c15_compose_sample_group
#print axioms Wrappers.c15_value_compose
#print axioms Wrappers.c15_transformers_keep_skeleton
#print axioms Wrappers.c15_adapters_history_independent
#print axioms Wrappers.c15_force_empty_flags_id
#print axioms Wrappers.c15_size_hint_variant_not_transparent
