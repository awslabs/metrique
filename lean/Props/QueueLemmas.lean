import Model.Queue
import Model.QueueSpec
/-!
Shared lemmas about the background-queue model. `step` and `wstep` are inverted once into the
relations `Step` and `WStep` (one constructor per branch, the successor state written out), so that
the invariants in Props/C09, C01, C05, C04 are proved by `cases` on them and unchanged fields are unchanged
by `rfl`. `Emits` is the projection of a step to what it appends to the history, for the invariants that
only read the history. `ParkInv` is the one invariant about wake-ups; C01, C05 and C04 each read their
statement off it.
-/
namespace Queue

/-- the entry the writer has popped and not yet handed to the stream -/
def holding : WPc → List Ent
  | .holding e _ => [e]
  | .shutHolding e _ => [e]
  | _ => []

@[simp] theorem delivered_nil : delivered [] = [] := rfl
@[simp] theorem displaced_nil : displaced [] = [] := rfl

@[simp] theorem delivered_cons (o : Obs) (l : List Obs) :
    delivered (o :: l) = match o with | .next e _ => e :: delivered l | _ => delivered l := by
  cases o <;> rfl

@[simp] theorem displaced_cons (o : Obs) (l : List Obs) :
    displaced (o :: l) = match o with | .displaced e => e :: displaced l | _ => displaced l := by
  cases o <;> rfl

@[simp] theorem delivered_append (a b : List Obs) : delivered (a ++ b) = delivered a ++ delivered b :=
  List.filterMap_append

@[simp] theorem displaced_append (a b : List Obs) : displaced (a ++ b) = displaced a ++ displaced b :=
  List.filterMap_append

@[simp] theorem delivered_completed (l : List Nat) (b : Bool) : delivered (l.map (Obs.completed · b)) = [] := by
  induction l with
  | nil => rfl
  | cons x xs ih => exact ih

@[simp] theorem displaced_completed (l : List Nat) (b : Bool) : displaced (l.map (Obs.completed · b)) = [] := by
  induction l with
  | nil => rfl
  | cons x xs ih => exact ih

theorem append_eq_append_cons {α : Type} {a b pre post : List α} {x : α} (h : a ++ b = pre ++ x :: post) :
    (∃ post', a = pre ++ x :: post') ∨ ∃ pre', pre = a ++ pre' ∧ b = pre' ++ x :: post := by
  rcases List.append_eq_append_iff.mp h with ⟨a', h1, h2⟩ | ⟨c', h1, h2⟩
  · exact .inr ⟨a', h1, h2⟩
  · cases c' with
    | nil => exact .inr ⟨[], by simpa using h1.symm, by simpa using h2.symm⟩
    | cons y c'' => cases h2; exact .inl ⟨c'', h1⟩

theorem mem_consumeObs {s : QState} {c : Clock} {e : Ent} {o : Obs} (h : o ∈ consumeObs s c e) :
    o = .next e (s.res e) ∨
      o = .report ∧ s.res e = .validation ∧ s.noSubscriber = true ∧ c.limiterFires = true := by
  unfold consumeObs at h
  split at h
  · rcases List.mem_cons.mp h with rfl | h
    · exact .inl rfl
    · exact .inr ⟨List.mem_singleton.mp h, ‹_›⟩
  · exact .inl (List.mem_singleton.mp h)

@[simp] theorem delivered_consumeObs (s : QState) (c : Clock) (e : Ent) : delivered (consumeObs s c e) = [e] := by
  unfold consumeObs; split <;> rfl

@[simp] theorem displaced_consumeObs (s : QState) (c : Clock) (e : Ent) : displaced (consumeObs s c e) = [] := by
  unfold consumeObs; split <;> rfl

theorem hww_eq (cap : Nat) (st : Status) (n : Nat) (waiting : List Nat) (ebw : Nat) (sigs : List Nat) :
    hww cap st n waiting ebw sigs =
      if waiting ≠ [] ∧ ¬(ebw - n = 0 ∨ st = .drained) then ⟨waiting, ebw - n, sigs, false, []⟩
      else ⟨sigs, if sigs = [] then (if waiting = [] then ebw else 0) else cap, [], decide (waiting ≠ []), waiting⟩ := by
  unfold hww collect
  by_cases hw : waiting = []
  · subst hw; by_cases hs : sigs = [] <;> simp [hs]
  · by_cases hc : ebw - n = 0 ∨ st = .drained <;> by_cases hs : sigs = [] <;> simp [hw, hc, hs]

/-- `wstep` as a relation: one constructor per branch; `handle_waiting_wakers` has three (`hww_eq`):
`countDown`, `collect` (nobody waits) and `wake`. -/
inductive WStep (s : QState) (c : Clock) : QState → Prop
  | drained (n : Nat) : s.wpc = .drain n → s.ring = [] → WStep s c { s with wpc := .afterDrain .drained n }
  | pop (n : Nat) (e : Ent) (t : List Ent) : s.wpc = .drain n → s.ring = e :: t →
      WStep s c { s with ring := t, wpc := .holding e n }
  | consume (e : Ent) (n : Nat) : s.wpc = .holding e n → ¬((n + 1) % 32 = 0 ∧ c.deadlineHit = true) →
      WStep s c { s with log := s.log ++ consumeObs s c e, wpc := .drain (n + 1) }
  | consumeHit (e : Ent) (n : Nat) : s.wpc = .holding e n → (n + 1) % 32 = 0 ∧ c.deadlineHit = true →
      WStep s c { s with log := s.log ++ consumeObs s c e, wpc := .afterDrain .hitDeadline (n + 1) }
  | countDown (st : Status) (n : Nat) : s.wpc = .afterDrain st n → s.waiting ≠ [] →
      ¬(s.ebw - n = 0 ∨ st = .drained) → WStep s c { s with ebw := s.ebw - n, wpc := .postHww st }
  | collect (st : Status) (n : Nat) : s.wpc = .afterDrain st n → s.waiting = [] →
      WStep s c { s with
        waiting := s.sigs, sigs := [], ebw := if s.sigs = [] then s.ebw else s.cap, wpc := .postHww st }
  | wake (st : Status) (n : Nat) : s.wpc = .afterDrain st n → s.waiting ≠ [] → s.ebw - n = 0 ∨ st = .drained →
      WStep s c { s with
        waiting := s.sigs, sigs := [], ebw := if s.sigs = [] then 0 else s.cap,
        log := s.log ++ .flush :: s.waiting.map (Obs.completed · true), wpc := .postHww st }
  | postDeadline : s.wpc = .postHww .hitDeadline → WStep s c { s with wpc := .outerFlush }
  | postShutdown : s.wpc = .postHww .drained → s.shutdown = true → WStep s c { s with wpc := .outerFlush }
  | postProgress : s.wpc = .postHww .drained → s.shutdown = false → willProgress s.waiting = true →
      WStep s c { s with wpc := .checkTime }
  | postPark : s.wpc = .postHww .drained → s.shutdown = false → willProgress s.waiting = false →
      WStep s c { s with wpc := .parking }
  | parkToken : s.wpc = .parking → s.token = true → WStep s c { s with token := false, wpc := .checkTime }
  | parkTimeout : s.wpc = .parking → s.token = false → c.parkWake = true → WStep s c { s with wpc := .checkTime }
  | timeFlush : s.wpc = .checkTime → c.pastNextFlush = true → WStep s c { s with wpc := .outerFlush }
  | timeDrain : s.wpc = .checkTime → c.pastNextFlush = false → WStep s c { s with wpc := .drain 0 }
  | outerFlush : s.wpc = .outerFlush → WStep s c { s with log := s.log ++ [.flush], wpc := .checkShutdown }
  | sawShutdown : s.wpc = .checkShutdown → s.shutdown = true → WStep s c { s with wpc := .shutDrain 0 }
  | noShutdown : s.wpc = .checkShutdown → s.shutdown = false → WStep s c { s with wpc := .checkHandles }
  | noHandles : s.wpc = .checkHandles → s.handles = 0 → WStep s c { s with wpc := .shutDrain 0 }
  | handlesLeft : s.wpc = .checkHandles → s.handles ≠ 0 → WStep s c { s with wpc := .drain 0 }
  | shutDrained (n : Nat) : s.wpc = .shutDrain n → s.ring = [] → WStep s c { s with wpc := .shutFlush }
  | shutPop (n : Nat) (e : Ent) (t : List Ent) : s.wpc = .shutDrain n → s.ring = e :: t →
      WStep s c { s with ring := t, wpc := .shutHolding e n }
  | shutConsume (e : Ent) (n : Nat) : s.wpc = .shutHolding e n →
      (decide ((n + 1) % 32 = 0) && c.deadlineHit) = false →
      WStep s c { s with log := s.log ++ consumeObs s c e, wpc := .shutDrain (n + 1) }
  | shutConsumeHit (e : Ent) (n : Nat) : s.wpc = .shutHolding e n →
      (decide ((n + 1) % 32 = 0) && c.deadlineHit) = true →
      WStep s c { s with log := s.log ++ consumeObs s c e, wpc := .shutFlush, shutHit := true }
  | shutFlush : s.wpc = .shutFlush →
      WStep s c { s with
        log := s.log ++ [.flush, .closed] ++ (s.waiting ++ s.sigs).map (Obs.completed · false),
        waiting := [], sigs := [], wpc := .exited }

theorem wstep_inv {s s' : QState} {c : Clock} (h : wstep s c = some s') : WStep s c s' := by
  unfold wstep at h
  split at h
  · split at h <;> cases h
    · exact .drained _ ‹_› ‹_›
    · exact .pop _ _ _ ‹_› ‹_›
  · cases h
    split
    · exact .consumeHit _ _ ‹_› ‹_›
    · exact .consume _ _ ‹_› ‹_›
  · rename_i st n hpc
    rw [hww_eq] at h
    split at h
    · rename_i hc
      simp only [Bool.false_eq_true, ↓reduceIte, List.map_nil, List.append_nil] at h
      cases h; exact .countDown st n hpc hc.1 hc.2
    · by_cases hw : s.waiting = []
      · simp only [hw, ne_eq, not_true_eq_false, decide_false, Bool.false_eq_true, ↓reduceIte, List.map_nil,
          List.append_nil] at h
        cases h; exact .collect st n hpc hw
      · simp only [hw, ne_eq, not_false_eq_true, decide_true, ↓reduceIte, List.append_assoc,
          List.singleton_append] at h
        cases h; exact .wake st n hpc hw (Classical.not_not.mp fun hc => ‹¬(_ ∧ _)› ⟨hw, hc⟩)
  · rename_i st hpc
    cases st with
    | hitDeadline => cases h; exact .postDeadline hpc
    | drained =>
      simp only [reduceCtorEq, ↓reduceIte] at h
      split at h
      · cases h; exact .postShutdown hpc ‹_›
      · split at h <;> cases h
        · exact .postProgress hpc (eq_false_of_ne_true ‹¬ s.shutdown = true›) ‹_›
        · exact .postPark hpc (eq_false_of_ne_true ‹¬ s.shutdown = true›)
            (eq_false_of_ne_true ‹¬ willProgress s.waiting = true›)
  · split at h
    · cases h; exact .parkToken ‹_› ‹_›
    · split at h <;> cases h
      exact .parkTimeout ‹_› (eq_false_of_ne_true ‹¬ s.token = true›) ‹_›
  · split at h <;> cases h
    · exact .timeFlush ‹_› ‹_›
    · exact .timeDrain ‹_› (eq_false_of_ne_true ‹¬ c.pastNextFlush = true›)
  · cases h; exact .outerFlush ‹_›
  · split at h <;> cases h
    · exact .sawShutdown ‹_› ‹_›
    · exact .noShutdown ‹_› (eq_false_of_ne_true ‹¬ s.shutdown = true›)
  · split at h <;> cases h
    · exact .noHandles ‹_› ‹_›
    · exact .handlesLeft ‹_› ‹_›
  · split at h <;> cases h
    · exact .shutDrained _ ‹_› ‹_›
    · exact .shutPop _ _ _ ‹_› ‹_›
  · cases h
    cases hit : (decide ((_ + 1) % 32 = 0) && c.deadlineHit)
    · simp only [Bool.or_false]; exact .shutConsume _ _ ‹_› hit
    · simp only [Bool.or_true]; exact .shutConsumeHit _ _ ‹_› hit
  · cases h; exact .shutFlush ‹_›
  · cases h

theorem wstep_isSome {s : QState} {c : Clock} (hpw : c.parkWake = true) (hne : s.wpc ≠ .exited) :
    (wstep s c).isSome = true := by
  unfold wstep
  split
  case h_13 h => exact absurd h hne
  -- `drain`, `shutDrain`: a match on the ring
  case h_1 | h_10 => split <;> rfl
  all_goals simp only [apply_ite Option.isSome, Option.isSome_some, ite_self, hpw, if_true]

theorem WStep.ne_exited {s s' : QState} {c : Clock} (h : WStep s c s') : s.wpc ≠ .exited := by
  cases h <;> exact ‹s.wpc = _› ▸ WPc.noConfusion

theorem forcePush_room {cap : Nat} {ring : List Ent} (e : Ent) (h : ring.length < cap ∨ ring = []) :
    forcePush cap ring e = (ring ++ [e], none) := by
  unfold forcePush
  split
  · rfl
  · rcases h with h | rfl
    · contradiction
    · rfl

theorem forcePush_full {cap : Nat} {d : Ent} {t : List Ent} (e : Ent) (h : cap ≤ (d :: t).length) :
    forcePush cap (d :: t) e = (t ++ [e], some d) := by
  simpa [forcePush] using h

inductive Step (s : QState) : Ev → QState → Prop
  | push (p : Nat) : s.handles ≠ 0 → s.ring.length < s.cap ∨ s.ring = [] →
      Step s (.push p) { s with
        ring := s.ring ++ [(p, s.pushOrder.length)],
        pushOrder := s.pushOrder ++ [(p, s.pushOrder.length)], pushed := p :: s.pushed }
  | pushFull (p : Nat) (d : Ent) (t : List Ent) : s.handles ≠ 0 → s.ring = d :: t → s.cap ≤ s.ring.length →
      Step s (.push p) { s with
        ring := t ++ [(p, s.pushOrder.length)],
        pushOrder := s.pushOrder ++ [(p, s.pushOrder.length)], pushed := p :: s.pushed,
        log := s.log ++ [.displaced d], overflow := s.overflow + 1 }
  | unpark (p : Nat) : p ∈ s.pushed → Step s (.unpark p) { s with pushed := s.pushed.erase p, token := true }
  | flushSend : s.wpc ≠ .exited →
      Step s .flushSend { s with
        marks := s.marks ++ [s.pushOrder.length], sent := s.marks.length :: s.sent,
        sigs := s.sigs ++ [s.marks.length] }
  | flushDead : s.wpc = .exited →
      Step s .flushSend { s with
        marks := s.marks ++ [s.pushOrder.length], sent := s.marks.length :: s.sent,
        log := s.log ++ [.completed s.marks.length false] }
  | flushUnpark (i : Nat) : i ∈ s.sent → Step s (.flushUnpark i) { s with sent := s.sent.erase i, token := true }
  | clone : s.handles ≠ 0 → Step s .clone { s with handles := s.handles + 1 }
  | dropHandle : s.handles ≠ 0 → Step s .dropHandle { s with handles := s.handles - 1 }
  | forget : s.join = .held → Step s .forget { s with join := .forgotten }
  | dropJoinBegin : s.join = .held →
      Step s .dropJoinBegin { s with join := .stored, shutdown := true, shutMark := s.pushOrder.length }
  | dropJoinUnpark : s.join = .stored → Step s .dropJoinUnpark { s with join := .joining, token := true }
  | dropJoinEnd : s.join = .joining → s.wpc = .exited →
      Step s .dropJoinEnd { s with join := .joined, log := s.log ++ [.joinReturned] }
  | setSubscriber (present : Bool) : Step s (.setSubscriber present) { s with noSubscriber := !present }
  | w (c : Clock) (s' : QState) : WStep s c s' → Step s (.w c) s'

theorem step_inv {s s' : QState} {ev : Ev} (h : step s ev = some s') : Step s ev s' := by
  cases ev with
  | push p =>
    simp only [step] at h
    split at h
    · cases h
    · by_cases hroom : s.ring.length < s.cap ∨ s.ring = []
      · rw [forcePush_room _ hroom] at h; cases h; exact .push p ‹_› hroom
      · cases hr : s.ring with
        | nil => exact absurd (.inr hr) hroom
        | cons d t =>
          have hc : s.cap ≤ s.ring.length := Nat.not_lt.mp fun hlt => hroom (.inl hlt)
          rw [hr, forcePush_full _ (hr ▸ hc)] at h; cases h; exact .pushFull p d t ‹_› hr hc
  | unpark p => simp only [step] at h; split at h <;> cases h; exact .unpark p ‹_›
  | flushSend =>
    simp only [step] at h
    split at h <;> cases h
    · exact .flushDead ‹_›
    · exact .flushSend ‹_›
  | flushUnpark i => simp only [step] at h; split at h <;> cases h; exact .flushUnpark i ‹_›
  | clone => simp only [step] at h; split at h <;> cases h; exact .clone ‹_›
  | dropHandle => simp only [step] at h; split at h <;> cases h; exact .dropHandle ‹_›
  | forget => simp only [step] at h; split at h <;> cases h; exact .forget ‹_›
  | dropJoinBegin => simp only [step] at h; split at h <;> cases h; exact .dropJoinBegin ‹_›
  | dropJoinUnpark => simp only [step] at h; split at h <;> cases h; exact .dropJoinUnpark ‹_›
  | dropJoinEnd => simp only [step] at h; split at h <;> cases h; exact .dropJoinEnd (‹_ ∧ _›).1 (‹_ ∧ _›).2
  | setSubscriber b => cases h; exact .setSubscriber b
  | w c => exact .w c s' (wstep_inv h)

theorem Reachable.inv {P : QState → Prop} (h0 : ∀ cap res ns, P (Queue.init cap res ns))
    (hs : ∀ s s' ev, Reachable s → P s → Step s ev s' → P s') {s : QState} (hr : Reachable s) : P s := by
  induction hr with
  | init cap res ns => exact h0 cap res ns
  | step hr' hst ih => exact hs _ _ _ hr' ih (step_inv hst)

theorem run_inv {P : QState → Prop} (hs : ∀ s s' ev, P s → step s ev = some s' → P s') {s s' : QState}
    {evs : List Ev} (h0 : P s) (h : run s evs = some s') : P s' := by
  induction evs generalizing s with
  | nil => cases h; exact h0
  | cons ev evs ih =>
    simp only [Queue.run] at h
    split at h
    · cases h
    · exact ih (hs _ _ _ h0 ‹_›) h

theorem Reachable.run {s s' : QState} {evs : List Ev} (hr : Reachable s) (h : run s evs = some s') :
    Reachable s' :=
  run_inv (fun _ _ _ hr h => hr.step h) hr h

theorem Step.frame {s s' : QState} {ev : Ev} (h : Step s ev s') :
    s'.cap = s.cap ∧ s'.res = s.res ∧ s.pushOrder <+: s'.pushOrder ∧ s.marks <+: s'.marks := by
  cases h
  case push | pushFull => exact ⟨rfl, rfl, List.prefix_append _ _, List.prefix_rfl⟩
  case flushSend | flushDead => exact ⟨rfl, rfl, List.prefix_rfl, List.prefix_append _ _⟩
  case w c hw => cases hw <;> exact ⟨rfl, rfl, List.prefix_rfl, List.prefix_rfl⟩
  all_goals exact ⟨rfl, rfl, List.prefix_rfl, List.prefix_rfl⟩

inductive Emits (s : QState) : Ev → List Obs → Prop
  | silent (ev : Ev) : Emits s ev []
  | displaced (p : Nat) (d : Ent) (t : List Ent) : s.ring = d :: t → Emits s (.push p) [.displaced d]
  | dead : s.wpc = .exited → Emits s .flushSend [.completed s.marks.length false]
  | joined : Emits s .dropJoinEnd [.joinReturned]
  | consume (c : Clock) (e : Ent) : holding s.wpc = [e] → Emits s (.w c) (consumeObs s c e)
  | wake (c : Clock) (st : Status) (n : Nat) : s.wpc = .afterDrain st n → s.waiting ≠ [] →
      s.ebw - n = 0 ∨ st = .drained → Emits s (.w c) (.flush :: s.waiting.map (Obs.completed · true))
  | flush (c : Clock) : s.wpc = .outerFlush → Emits s (.w c) [.flush]
  | exit (c : Clock) : s.wpc = .shutFlush →
      Emits s (.w c) ([.flush, .closed] ++ (s.waiting ++ s.sigs).map (Obs.completed · false))

theorem Step.emits {s s' : QState} {ev : Ev} (h : Step s ev s') :
    ∃ added, s'.log = s.log ++ added ∧ Emits s ev added := by
  cases h
  case pushFull p d t _ hr _ => exact ⟨_, rfl, .displaced p d t hr⟩
  case flushDead hex => exact ⟨_, rfl, .dead hex⟩
  case dropJoinEnd => exact ⟨_, rfl, .joined⟩
  case w c hw =>
    cases hw
    case consume e n hpc _ | consumeHit e n hpc _ | shutConsume e n hpc _ | shutConsumeHit e n hpc _ =>
      exact ⟨_, rfl, .consume c e (by rw [hpc]; rfl)⟩
    case wake st n hpc hw hc => exact ⟨_, rfl, .wake c st n hpc hw hc⟩
    case outerFlush hpc => exact ⟨_, rfl, .flush c hpc⟩
    case shutFlush hpc => exact ⟨_, List.append_assoc _ _ _, .exit c hpc⟩
    all_goals exact ⟨[], (List.append_nil _).symm, .silent _⟩
  all_goals exact ⟨[], (List.append_nil _).symm, .silent _⟩

/-- How far the writer is on its way into `park` after it has seen the ring empty: it collects the flush
channel (1 → 2), then loads the shutdown flag (2 → 3), then parks. -/
def parkStage : WPc → Nat
  | .afterDrain .drained _ => 1
  | .postHww .drained => 2
  | .parking => 3
  | _ => 0

/-- No wake-up is lost. Whoever gives the writer work after its last look — a producer the ring, a
flusher the channel, `drop(join_handle)` the shutdown flag — calls `unpark` afterwards: the token is
set or that call is still to come. -/
structure ParkInv (s : QState) : Prop where
  ring : 1 ≤ parkStage s.wpc → s.ring ≠ [] → s.token = true ∨ s.pushed ≠ []
  sigs : 2 ≤ parkStage s.wpc → ∀ i ∈ s.sigs, s.token = true ∨ i ∈ s.sent
  shutdown : 3 ≤ parkStage s.wpc → s.shutdown = true → s.token = true ∨ s.join = .stored

theorem ParkInv.of_stage_zero {s : QState} (h : parkStage s.wpc = 0) : ParkInv s := by
  refine ⟨fun h1 => ?_, fun h1 => ?_, fun h1 => ?_⟩ <;> rw [h] at h1 <;> cases h1

theorem ParkInv.step {s s' : QState} {ev : Ev} (hi : ParkInv s) (h : Step s ev s') : ParkInv s' := by
  cases h
  case push | pushFull => exact { hi with ring := fun _ _ => .inr (List.cons_ne_nil _ _) }
  case unpark | flushUnpark | dropJoinUnpark => exact ⟨fun _ _ => .inl rfl, fun _ _ _ => .inl rfl, fun _ _ => .inl rfl⟩
  case flushSend =>
    refine { hi with sigs := fun h i his => ?_ }
    rcases List.mem_append.mp his with his | his
    · exact (hi.sigs h i his).imp_right (List.mem_cons_of_mem _)
    · exact .inr (List.mem_singleton.mp his ▸ List.mem_cons_self)
  case flushDead => exact { hi with sigs := fun h i his => (hi.sigs h i his).imp_right (List.mem_cons_of_mem _) }
  case dropJoinBegin => exact { hi with shutdown := fun _ _ => .inr rfl }
  case forget hj =>
    exact { hi with shutdown := fun h1 h2 => (hi.shutdown h1 h2).elim .inl fun h3 => nomatch hj.symm.trans h3 }
  case dropJoinEnd _ hex => exact .of_stage_zero (congrArg parkStage hex)
  case w c hw =>
    cases hw
    case drained n hpc hr =>
      exact ⟨fun _ hne => absurd hr hne, fun h => absurd h (by decide : ¬2 ≤ 1),
        fun h => absurd h (by decide : ¬3 ≤ 1)⟩
    case countDown st n hpc _ hc =>
      cases st
      · exact absurd (.inr rfl) hc
      · exact .of_stage_zero rfl
    case collect st n hpc _ | wake st n hpc _ _ =>
      -- the channel has just been emptied
      cases st
      · exact ⟨fun _ => hi.ring (by rw [hpc]; exact Nat.le_refl 1), fun _ _ h => absurd h List.not_mem_nil,
          fun h => absurd h (by decide : ¬3 ≤ 2)⟩
      · exact .of_stage_zero rfl
    case postPark hpc hsd _ =>
      exact ⟨fun _ => hi.ring (by rw [hpc]; decide), fun _ => hi.sigs (by rw [hpc]; decide),
        fun _ h => nomatch hsd.symm.trans h⟩
    all_goals exact .of_stage_zero rfl
  all_goals exact { hi with }

theorem parkInv_reachable {s : QState} (hr : Reachable s) : ParkInv s :=
  hr.inv (fun _ _ _ => .of_stage_zero rfl) fun _ _ _ _ hi h => hi.step h

end Queue
