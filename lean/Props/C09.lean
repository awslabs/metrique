import Props.QueueLemmas
/-!
# C09 — a full queue never blocks: it drops the oldest entry, keeps order, counts losses

Theorems about the transition system `Queue.step` (model of `sink/background.rs`), for every
capacity (positive in `c09_drops_oldest` and `c09_ring_bounded`), every event sequence (any number of producers, any interleaving with the writer's
micro-steps, including a writer that never moves) — `Reachable` quantifies over all of them.
-/
namespace Queue

/-- entries not (yet) displaced, in push order -/
def survivors (pushOrder displ : List Ent) : List Ent :=
  pushOrder.filter fun e => decide (e ∉ displ)

structure Conserve (s : QState) : Prop where
  idx : s.pushOrder.map Prod.snd = List.range s.pushOrder.length
  cons : delivered s.log ++ holding s.wpc ++ s.ring = survivors s.pushOrder (displaced s.log)
  suffix : s.ring <:+ s.pushOrder
  count : s.overflow = (displaced s.log).length
  newer : ∀ d ∈ displaced s.log, ∃ pre nw, s.pushOrder = pre ++ d :: nw ∧ s.cap ≤ nw.length
  bound : s.ring.length ≤ max s.cap 1

theorem Conserve.nodup {s : QState} (h : Conserve s) : s.pushOrder.Nodup := by
  have : (s.pushOrder.map Prod.snd).Nodup := by rw [h.idx]; exact List.nodup_range
  exact List.Pairwise.of_map Prod.snd (fun a b hab heq => hab (heq ▸ rfl)) this

theorem Conserve.fresh {s : QState} (h : Conserve s) (p : Nat) : (p, s.pushOrder.length) ∉ s.pushOrder := by
  intro hm
  have : (p, s.pushOrder.length).2 ∈ s.pushOrder.map Prod.snd := List.mem_map_of_mem hm
  rw [h.idx] at this
  exact Nat.lt_irrefl _ (List.mem_range.mp this)

theorem Conserve.displ_subset {s : QState} (h : Conserve s) {d : Ent} (hd : d ∈ displaced s.log) : d ∈ s.pushOrder := by
  obtain ⟨pre, nw, hp, _⟩ := h.newer d hd
  rw [hp]; exact List.mem_append_right _ List.mem_cons_self

theorem Conserve.accounted {s : QState} (h : Conserve s) {e : Ent} (he : e ∈ s.pushOrder) :
    e ∈ delivered s.log ∨ e ∈ displaced s.log ∨ e ∈ holding s.wpc ++ s.ring := by
  by_cases hd : e ∈ displaced s.log
  · exact .inr (.inl hd)
  · have : e ∈ survivors s.pushOrder (displaced s.log) := List.mem_filter.mpr ⟨he, decide_eq_true hd⟩
    rw [← h.cons, List.append_assoc] at this
    exact (List.mem_append.mp this).imp_right .inr

/-- Steps that push nothing move entries from the ring to the writer and on to the stream, or leave
them where they are. -/
theorem Conserve.frame {s s' : QState} (h : Conserve s)
    (hcons : delivered s'.log ++ holding s'.wpc ++ s'.ring = delivered s.log ++ holding s.wpc ++ s.ring)
    (hr : s'.ring <:+ s.ring) (hdis : displaced s'.log = displaced s.log) (hcap : s'.cap = s.cap)
    (hpo : s'.pushOrder = s.pushOrder) (hov : s'.overflow = s.overflow) : Conserve s' :=
  ⟨by rw [hpo]; exact h.idx, by rw [hcons, hpo, hdis]; exact h.cons, by rw [hpo]; exact hr.trans h.suffix,
    by rw [hov, hdis]; exact h.count, by rw [hdis, hpo, hcap]; exact h.newer,
    by rw [hcap]; exact Nat.le_trans hr.length_le h.bound⟩

theorem filter_ne_of_nodup (a t : List Ent) (d : Ent) (h : (a ++ d :: t).Nodup) :
    (a ++ d :: t).filter (fun e => decide (e ≠ d)) = a ++ t := by
  rw [List.nodup_append] at h
  obtain ⟨_, hdt, hdisj⟩ := h
  rw [List.nodup_cons] at hdt
  rw [List.filter_append, List.filter_cons]
  have h1 : a.filter (fun e => decide (e ≠ d)) = a :=
    List.filter_eq_self.mpr fun x hx => by simpa using hdisj x hx d List.mem_cons_self
  have h2 : t.filter (fun e => decide (e ≠ d)) = t :=
    List.filter_eq_self.mpr fun x hx => by simpa using fun hxd : x = d => hdt.1 (hxd ▸ hx)
  rw [h1, h2]; simp

theorem survivors_snoc_displ (po displ : List Ent) (d : Ent) :
    survivors po (displ ++ [d]) = (survivors po displ).filter (fun e => decide (e ≠ d)) := by
  unfold survivors
  rw [List.filter_filter]
  congr 1
  funext e
  simp [List.mem_append, not_or, Bool.and_comm]

theorem survivors_snoc_fresh (po displ : List Ent) (e : Ent) (h : e ∉ displ) :
    survivors (po ++ [e]) displ = survivors po displ ++ [e] := by
  simp [survivors, List.filter_append, h]

theorem Conserve.idx_snoc {s : QState} (h : Conserve s) (p : Nat) :
    (s.pushOrder ++ [(p, s.pushOrder.length)]).map Prod.snd =
      List.range (s.pushOrder ++ [(p, s.pushOrder.length)]).length := by
  simp [h.idx, List.range_succ]

theorem Conserve.newer_snoc {s : QState} (h : Conserve s) (e : Ent) {d : Ent} (hd : d ∈ displaced s.log) :
    ∃ pre nw, s.pushOrder ++ [e] = pre ++ d :: nw ∧ s.cap ≤ nw.length := by
  obtain ⟨pre, nw, hp, hn⟩ := h.newer d hd
  exact ⟨pre, nw ++ [e], by rw [hp]; simp, by simp; omega⟩

theorem Conserve.cons_snoc {s : QState} (h : Conserve s) (p : Nat) :
    delivered s.log ++ holding s.wpc ++ s.ring ++ [(p, s.pushOrder.length)] =
      survivors (s.pushOrder ++ [(p, s.pushOrder.length)]) (displaced s.log) := by
  rw [survivors_snoc_fresh _ _ _ fun hm => h.fresh p (h.displ_subset hm), h.cons]

theorem conserve_step {s s' : QState} {ev : Ev} (hc : Conserve s) (h : Step s ev s') : Conserve s' := by
  cases h
  case push p _ hroom =>
    obtain ⟨pre, hpre⟩ := hc.suffix
    refine ⟨hc.idx_snoc p, ?_, ⟨pre, by rw [← hpre, List.append_assoc]⟩, hc.count,
      fun d hd => hc.newer_snoc _ hd, ?_⟩
    · rw [← hc.cons_snoc p]; exact (List.append_assoc _ _ _).symm
    · rcases hroom with h | h
      · rw [List.length_append]; exact Nat.le_trans h (Nat.le_max_left _ _)
      · rw [h]; exact Nat.le_max_right _ _
  case pushFull p d t _ hr hcap =>
    obtain ⟨pre, hpre⟩ := hc.suffix
    rw [hr] at hpre
    have hne : (p, s.pushOrder.length) ≠ d := fun heq => hc.fresh p (heq ▸ hpre ▸ by simp)
    refine ⟨hc.idx_snoc p, ?_, ⟨pre ++ [d], by rw [← hpre]; simp⟩,
      by dsimp only; rw [displaced_append, List.length_append, ← hc.count]; rfl, ?_, ?_⟩
    · have hnd : (delivered s.log ++ holding s.wpc ++ d :: t).Nodup := by
        rw [← hr, hc.cons]; exact hc.nodup.sublist List.filter_sublist
      have hd1 : displaced [Obs.displaced d] = [d] := rfl
      have hd2 : delivered [Obs.displaced d] = [] := rfl
      simp only [delivered_append, displaced_append, hd1, hd2, List.append_nil]
      rw [survivors_snoc_displ, ← hc.cons_snoc p, hr, List.filter_append, filter_ne_of_nodup _ t d hnd]
      simp [hne]
    · intro d0 hd0
      rcases List.mem_append.mp (displaced_append _ _ ▸ hd0) with h0 | h0
      · exact hc.newer_snoc _ h0
      · obtain rfl : d0 = d := List.mem_singleton.mp h0
        exact ⟨pre, t ++ [(p, s.pushOrder.length)], by rw [← hpre, List.append_assoc]; rfl,
          by rw [hr] at hcap; rw [List.length_append]; exact hcap⟩
    · have := hc.bound; rw [hr] at this; rw [List.length_append]; exact this
  case flushDead | dropJoinEnd =>
    exact hc.frame (by simp) List.suffix_rfl (by simp) rfl rfl rfl
  case w c hw =>
    cases hw
    case pop n e t hpc hr | shutPop n e t hpc hr =>
      exact hc.frame (by rw [hpc, hr]; simp [holding]) (hr ▸ List.suffix_cons e t) rfl rfl rfl rfl
    case consume e n hpc _ | consumeHit e n hpc _ | shutConsume e n hpc _ | shutConsumeHit e n hpc _ =>
      exact hc.frame (by rw [hpc]; simp [holding]) List.suffix_rfl (by simp) rfl rfl rfl
    case wake st n hpc _ _ | outerFlush hpc | shutFlush hpc =>
      exact hc.frame (by simp [hpc, holding]) List.suffix_rfl (by simp) rfl rfl rfl
    -- the other branches move the writer between states that hold no entry
    all_goals exact hc.frame (‹s.wpc = _› ▸ rfl) List.suffix_rfl rfl rfl rfl rfl
  all_goals exact hc.frame rfl List.suffix_rfl rfl rfl rfl rfl

theorem conserve_reachable {s : QState} (hr : Reachable s) : Conserve s :=
  hr.inv (fun _ _ _ => ⟨rfl, rfl, List.nil_suffix, rfl, nofun, Nat.zero_le _⟩) fun _ _ _ _ hc h => conserve_step hc h

/-- `append` never blocks or fails: with a live handle, `push` is enabled in every state —
whatever the writer is doing (stalled inside `next`, parked, mid-drain, exited) and however full
the ring is. -/
theorem c09_push_always_enabled (s : QState) (p : Nat) (hh : 0 < s.handles) :
    ∃ s', step s (.push p) = some s' := by
  simp only [step]
  have : ¬ s.handles = 0 := by omega
  simp only [this, if_false]
  split <;> exact ⟨_, rfl⟩

/-- A push on a full ring discards exactly the oldest queued entry and appends the new one at the
tail; it is recorded as displaced and counted once. -/
theorem c09_drops_oldest {s s' : QState} {p : Nat} (hcap : 0 < s.cap) (hfull : s.ring.length = s.cap)
    (h : step s (.push p) = some s') :
    ∃ d t, s.ring = d :: t ∧ s'.ring = t ++ [(p, s.pushOrder.length)] ∧
      s'.log = s.log ++ [.displaced d] ∧ s'.overflow = s.overflow + 1 := by
  cases step_inv h with
  | push _ _ hroom =>
    rcases hroom with h | h
    · omega
    · rw [h] at hfull; exact absurd hfull.symm (Nat.ne_of_gt hcap)
  | pushFull _ d t _ hr _ => exact ⟨d, t, hr, rfl, rfl, rfl⟩

/-- A push on a ring that is not full displaces nothing. -/
theorem c09_no_loss_when_room {s s' : QState} {p : Nat} (hroom : s.ring.length < s.cap)
    (h : step s (.push p) = some s') :
    s'.ring = s.ring ++ [(p, s.pushOrder.length)] ∧ s'.log = s.log ∧ s'.overflow = s.overflow := by
  cases step_inv h with
  | push => exact ⟨rfl, rfl, rfl⟩
  | pushFull _ _ _ _ _ hge => omega

/-- Conservation with overflow: what was handed to the stream, the entry being written and the
ring are, in this order, exactly the pushed entries minus the displaced ones — in every reachable
state. In particular the stream sees a subsequence of the push order (nothing reordered, nothing
duplicated), and every entry that is neither delivered nor queued has been displaced. -/
theorem c09_order_with_overflow {s : QState} (hr : Reachable s) :
    delivered s.log ++ holding s.wpc ++ s.ring = survivors s.pushOrder (displaced s.log) ∧
    (delivered s.log).Sublist s.pushOrder ∧ s.pushOrder.Nodup := by
  have hc := conserve_reachable hr
  refine ⟨hc.cons, ?_, hc.nodup⟩
  have h1 : (delivered s.log).Sublist (delivered s.log ++ holding s.wpc ++ s.ring) := by
    rw [List.append_assoc]; exact List.sublist_append_left _ _
  rw [hc.cons] at h1
  exact h1.trans List.filter_sublist

/-- An entry is lost only if at least `cap` newer entries were pushed while it was still queued:
for every displaced `d` the push order continues after `d` with at least `cap` entries, and `d`
was never taken by the writer (it is neither delivered nor being written). -/
theorem c09_lost_only_if_cap_newer {s : QState} (hr : Reachable s) {d : Ent} (hd : d ∈ displaced s.log) :
    (∃ pre newer, s.pushOrder = pre ++ d :: newer ∧ s.cap ≤ newer.length) ∧
    d ∉ delivered s.log ∧ d ∉ holding s.wpc ∧ d ∉ s.ring := by
  have hc := conserve_reachable hr
  refine ⟨hc.newer d hd, ?_⟩
  have hnot : d ∉ survivors s.pushOrder (displaced s.log) := by
    simp [survivors, hd]
  rw [← hc.cons] at hnot
  simp only [List.mem_append, not_or] at hnot
  exact ⟨hnot.1.1, hnot.1.2, hnot.2⟩

/-- The overflow counter reported to the recorder equals the number of displaced entries. -/
theorem c09_counter {s : QState} (hr : Reachable s) : s.overflow = (displaced s.log).length :=
  (conserve_reachable hr).count

/-- The ring never holds more than `cap` entries (`cap` positive). -/
theorem c09_ring_bounded {s : QState} (hr : Reachable s) (hcap : 0 < s.cap) : s.ring.length ≤ s.cap := by
  have := (conserve_reachable hr).bound
  omega

/-- The ring is always a contiguous tail of the push order (the newest entries). -/
theorem c09_ring_is_newest {s : QState} (hr : Reachable s) : s.ring <:+ s.pushOrder :=
  (conserve_reachable hr).suffix

/-- **Trace specification (T-trace).** The executable predicate the driver evaluates on histories of
real multi-threaded runs holds of every reachable state of the model: with overflow, each producer's
delivered entries are a subsequence of that producer's pushes, and every delivered entry comes from one
of the `n` producers. -/
theorem c09_spec_accepts {s : QState} (hr : Reachable s) (n : Nat) (hn : ∀ e ∈ s.pushOrder, e.1 < n) (final : Bool) :
    Spec.acceptOrder n s.pushOrder (delivered s.log) true final = true := by
  have hsub := (c09_order_with_overflow hr).2.1
  simp only [Spec.acceptOrder, Bool.and_eq_true, List.all_eq_true, if_true]
  refine ⟨fun p _ => ?_, fun e he => by simpa using hn e (hsub.subset he)⟩
  simp only [Spec.producerSublist, Spec.ofProducer, List.isSublist_iff_sublist]
  exact hsub.filter _

/-! Non-vacuity: a concrete run with a writer that stops moving, capacity 2, three producers -/

def nvClock : Clock := ⟨false, false, false, false⟩

/-- the writer delivers entry 0, goes to `park` and is given no further step; then four more pushes from
producers 0,1,2: the ring wraps twice -/
def nvRun : Option QState :=
  run (init 2 (fun _ => .ok) true)
    [.push 0, .w nvClock, .w nvClock, .w nvClock, .w nvClock, .w nvClock, .push 1, .push 2, .push 0, .push 1, .unpark 1]

/-- The capacity in `c09_lost_only_if_cap_newer` is the *configured* one, and the bound is tight: a ring
that is silently smaller than configured (the seeded cap at 64 MiB / size_of entry) is not a refinement.
Witness: configured 3, effective 2 — the run of the 2-slot system displaces entry `(0,1)` with only two newer
pushes behind it; in the 3-slot system the same events displace nothing. -/
theorem c09_smaller_ring_violates :
    (run (init 2 (fun _ => .ok) true) [.push 0, .w nvClock, .push 0, .push 0, .push 0]).map
      (fun s => (displaced s.log, s.pushOrder.length, s.overflow)) = some ([(0, 1)], 4, 1) ∧
    (run (init 3 (fun _ => .ok) true) [.push 0, .w nvClock, .push 0, .push 0, .push 0]).map
      (fun s => (displaced s.log, s.pushOrder.length, s.overflow)) = some ([], 4, 0) := by decide +kernel

example : (nvRun.map fun s => (s.ring, holding s.wpc, displaced s.log, s.overflow, s.pushOrder.length)) =
    some ([(0, 3), (1, 4)], [], [(1, 1), (2, 2)], 2, 5) := by decide +kernel

example : ∃ s, nvRun = some s ∧ Reachable s ∧ s.ring.length = s.cap ∧ 0 < s.handles := by
  have key : (nvRun.map fun s => (s.ring.length, s.cap, s.handles)) = some (2, 2, 1) := by decide +kernel
  cases h : nvRun with
  | none => rw [h] at key; cases key
  | some s =>
    simp only [h, Option.map_some, Option.some.injEq, Prod.mk.injEq] at key
    exact ⟨s, rfl, Reachable.run (Reachable.init _ _ _) h, by omega, by omega⟩

end Queue

#print axioms Queue.c09_push_always_enabled
#print axioms Queue.c09_drops_oldest
#print axioms Queue.c09_no_loss_when_room
#print axioms Queue.c09_order_with_overflow
#print axioms Queue.c09_lost_only_if_cap_newer
#print axioms Queue.c09_counter
#print axioms Queue.c09_ring_bounded
#print axioms Queue.c09_ring_is_newest
#print axioms Queue.c09_spec_accepts
#print axioms Queue.c09_smaller_ring_violates
