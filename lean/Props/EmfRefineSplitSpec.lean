import Props.EmfRefineSplit
/-!
Stage 3 lemmas: the abstract dimension-set map after the entry is the declarative model's list of split
records (`splitKeys`, `routedTo`).
-/
namespace EmfRefine
open JsonTree Json EmfSpec

variable {F : Type}

theorem dimFieldsPrefix_eq (k : Key) : Emf.dimFieldsPrefix k = 125 :: strBytes k := rfl

def Rk (cfg : Config) (k : Key) (e : Entry F) : List (Str × Metric F) := routedTo cfg (some k) (metricItems e)

def newT (cfg : Config) (ops : FloatOps F) (mult : Option Nat) (e : Entry F) (k : Key) : Tri F :=
  (k, fieldsOf ops mult (Rk cfg k e), declsOf ops mult (Rk cfg k e))

def extT (cfg : Config) (ops : FloatOps F) (mult : Option Nat) (e : Entry F) (t : Tri F) : Tri F :=
  (t.1, t.2.1 ++ fieldsOf ops mult (Rk cfg t.1 e), t.2.2 ++ declsOf ops mult (Rk cfg t.1 e))

theorem item_cases (cfg : Config) (ops : FloatOps F) (mult : Option Nat) (it : Item F) (e : Entry F) :
    ((∀ ad, adStep cfg ops mult ad it = ad) ∧ splitKeys cfg (it :: e) = splitKeys cfg e ∧
      ∀ k, Rk cfg k (it :: e) = Rk cfg k e) ∨
    (∃ n m k0, it = .value n (.metric m) ∧ routeOf cfg m = some k0) := by
  cases it with
  | value n v =>
    cases v with
    | metric m =>
      cases hro : routeOf cfg m with
      | some k0 => exact Or.inr ⟨n, m, k0, rfl, hro⟩
      | none =>
        refine Or.inl ⟨fun ad => by simp [adStep, hro], by simp [splitKeys, metricItems, hro], fun k => ?_⟩
        simp [Rk, metricItems, routedTo, hro]
    | _ => exact Or.inl ⟨fun _ => rfl, rfl, fun _ => rfl⟩
  | _ => exact Or.inl ⟨fun _ => rfl, rfl, fun _ => rfl⟩

theorem splitKeys_cons_split (cfg : Config) (n : Str) (m : Metric F) (k0 : Key) (e : Entry F)
    (hro : routeOf cfg m = some k0) :
    splitKeys cfg (.value n (.metric m) :: e) = k0 :: (splitKeys cfg e).filter (· ≠ k0) := by
  simp [splitKeys, metricItems, hro, dedup]

theorem Rk_cons_split (cfg : Config) (n : Str) (m : Metric F) (k0 k : Key) (e : Entry F)
    (hro : routeOf cfg m = some k0) :
    Rk cfg k (.value n (.metric m) :: e) = if k0 = k then (n, m) :: Rk cfg k e else Rk cfg k e := by
  simp only [Rk, metricItems, routedTo, List.filter_cons, hro, Option.some.injEq]
  by_cases h : k0 = k <;> simp [h]

theorem adFold_spec (cfg : Config) (ops : FloatOps F) (mult : Option Nat) (e : Entry F) (ad : List (AEntry F)) :
    (e.foldl (adStep cfg ops mult) ad).map tri =
      (ad.map tri).map (extT cfg ops mult e) ++
      ((splitKeys cfg e).filter fun k => decide (k ∉ ad.map (·.key))).map (newT cfg ops mult e) := by
  induction e generalizing ad with
  | nil =>
    simp only [List.foldl_nil, splitKeys, metricItems, List.filterMap_nil, dedup, List.filter_nil, List.map_nil,
      List.append_nil]
    rw [List.map_map]
    exact List.map_congr_left fun a _ => by simp [extT, tri, Rk, metricItems, routedTo, fieldsOf, declsOf]
  | cons it e ih =>
    simp only [List.foldl_cons]
    rcases item_cases cfg ops mult it e with ⟨h1, h2, h3⟩ | ⟨n, m, k0, rfl, hro⟩
    · rw [h1, ih, h2]
      congr 1 <;> refine List.map_congr_left fun t _ => ?_
      · simp only [extT, h3]
      · simp only [newT, h3]
    · rw [ih, splitKeys_cons_split cfg n m k0 e hro]
      -- what the item adds at its own key `k0`; elsewhere it adds nothing
      have hR := fun k => Rk_cons_split cfg n m k0 k e hro
      have hnew : ∀ k, k ≠ k0 → newT cfg ops mult (.value n (.metric m) :: e) k = newT cfg ops mult e k :=
        fun k hk => by simp only [newT, hR, if_neg (Ne.symm hk)]
      have hext : ∀ t : Tri F, t.1 ≠ k0 → extT cfg ops mult (.value n (.metric m) :: e) t = extT cfg ops mult e t :=
        fun t hk => by simp only [extT, hR, if_neg (Ne.symm hk)]
      have h0 : ∀ Fs Ds, extT cfg ops mult (.value n (.metric m) :: e) (k0, Fs, Ds) =
          extT cfg ops mult e (k0, Fs ++ fieldsOf ops mult [(n, m)], Ds ++ declsOf ops mult [(n, m)]) :=
        fun Fs Ds => by
          simp only [extT, hR, if_true]
          rw [← List.singleton_append, fieldsOf_append, declsOf_append, List.append_assoc, List.append_assoc]
      have hfil : ∀ p : Key → Bool, (((splitKeys cfg e).filter (· ≠ k0)).filter p).map
            (newT cfg ops mult (.value n (.metric m) :: e)) =
          ((splitKeys cfg e).filter fun k => p k && decide (k ≠ k0)).map (newT cfg ops mult e) := fun p => by
        rw [List.filter_filter]
        exact List.map_congr_left fun k hk => hnew k (of_decide_eq_true (Bool.and_eq_true_iff.mp (List.mem_filter.mp hk).2).2)
      simp only [adStep, hro]
      unfold adAdd
      cases hf : adFind? ad k0 with
      | some a0 =>
        have hk0 : k0 ∈ ad.map (·.key) := List.mem_map.mpr ⟨a0, (adFind_some hf).1, (adFind_some hf).2⟩
        dsimp only
        rw [adUpd_keys, List.filter_cons, if_neg (by simpa using hk0), hfil]
        congr 1
        · rw [adUpd, List.map_map, List.map_map, List.map_map]
          refine List.map_congr_left fun a _ => ?_
          by_cases hk : a.key = k0
          · subst hk; rw [Function.comp_apply, Function.comp_apply, if_pos rfl]; exact (h0 _ _).symm
          · rw [Function.comp_apply, Function.comp_apply, if_neg hk]; exact (hext _ hk).symm
        · congr 1
          refine List.filter_congr fun k _ => ?_
          by_cases hk : k ∈ ad.map (·.key)
          · simp [hk]
          · simp [hk, show k ≠ k0 from fun c => hk (c ▸ hk0)]
      | none =>
        have hk0 : k0 ∉ ad.map (·.key) := (adFind_none ad k0).mp hf
        dsimp only
        rw [List.filter_cons, if_pos (by simpa using hk0), List.map_cons, hfil, List.map_append, List.map_append,
          List.append_assoc]
        congr 1
        · rw [List.map_map, List.map_map]
          exact List.map_congr_left fun a ha => (hext _ fun c => hk0 (List.mem_map.mpr ⟨a, ha, c⟩)).symm
        · rw [List.filter_congr fun k _ => show _ = (decide (k ∉ ad.map (·.key)) && decide (k ≠ k0)) by
              simp [List.mem_append, not_or]]
          exact congrArg (· :: _) (h0 [] []).symm

theorem adFold_nil (cfg : Config) (ops : FloatOps F) (mult : Option Nat) (e : Entry F) :
    (e.foldl (adStep cfg ops mult) []).map tri = (splitKeys cfg e).map (newT cfg ops mult e) := by
  simpa [List.filter_eq_self.mpr] using adFold_spec cfg ops mult e []

end EmfRefine
