import Props.EmfRefineRead
import Props.C08
/-!
# Stage 3, lifted: reachable states, the reader, and C03 / C08 facts about the BYTES

`Decodes bytes trees`: the bytes are a sequence of lines, each of which the reader reads back as the
corresponding tree. `emf_refines_spec_split_read`: the output of the operational model decodes to the trees
`recordJson r` of the declarative records, in order. Every theorem of C03 / C08 about `emit` is thereby a
theorem about the decoded output of the byte-level model; three are spelled out (`emf_lines_metrics_once`,
`emf_lines_usable_somewhere`, `emf_lines_no_dup_members_partial`).
-/

namespace JsonTree
/-- the member names of a JSON object, in order, duplicates kept -/
def JVal.keys : JVal → List (List Nat)
  | .obj ms => ms.map (·.1)
  | _ => []

def JVal.isStr : JVal → Bool
  | .str _ => true
  | _ => false

/-- the members of a record line after `_aws` that are not strings: the metric members -/
def JVal.metricMembers : JVal → List (List Nat × JVal)
  | .obj (_ :: ms) => ms.filter fun p => !p.2.isStr
  | _ => []
end JsonTree

namespace EmfRefine
open JsonTree Json EmfSpec

variable {F : Type}

/-- `bytes` is a sequence of lines that read back as `trees` -/
def Decodes (bytes : List Nat) (trees : List JVal) : Prop :=
  ∃ lines : List (List Nat), bytes = lines.flatten ∧ lines.map readLine = trees.map some

/-- `emf_refines_spec_split` for a formatter with any history (C14) -/
theorem emf_refines_spec_split_reachable (cfg : Config) (sw : Switches) (ops : FloatOps F) (txt : F → List Nat)
    (mult : Option Nat) (nowMs : Nat) (e : Entry F) {s : Emf.State} (hs : Emf.Reachable (toEmfCfg cfg sw) s)
    (hns : cfg.namespaces ≠ []) (hm : multOk mult) (hv : validate cfg sw e = []) :
    let r := Emf.format (Emf.Consts.ofConfig (toEmfCfg cfg sw)) s (toCall ops txt mult nowMs e)
    r.2.1 = .ok ∧
    r.2.2.bytes = ((emit cfg ops mult e).map (lineOf txt cfg.namespaces.length nowMs)).flatten := by
  simp only [Emf.c14_history_independent _ hs]
  exact Prod.mk.inj (emf_refines_spec_split cfg sw ops txt mult nowMs e hns hm hv).2

theorem emit_lines_read (cfg : Config) (ops : FloatOps F) (txt : F → List Nat) (ht : TxtOk ops txt)
    (mult : Option Nat) (nowMs : Nat) (e : Entry F) (r : Record F) (h : r ∈ emit cfg ops mult e) :
    readLine (lineOf txt cfg.namespaces.length nowMs r) = some (recordJson txt cfg.namespaces.length nowMs r) := by
  refine readLine_print _ (WF_recordJson txt _ _ _ ?_)
  rcases mem_emit h with ⟨k, _, rfl, _⟩ | rfl <;> exact mkRecord_members_ok cfg ops txt ht mult e _ _ _

/-- **Stage 3, reader form.** Under the hypotheses of `emf_refines_spec_split` and the dtoa law: the operational
model returns `ok` and its bytes are a sequence of lines that read back, one by one and in order, as the JSON
trees of the declarative model's records. -/
theorem emf_refines_spec_split_read (cfg : Config) (sw : Switches) (ops : FloatOps F) (txt : F → List Nat)
    (mult : Option Nat) (nowMs : Nat) (e : Entry F)
    (hns : cfg.namespaces ≠ []) (hm : multOk mult) (ht : TxtOk ops txt)
    (hv : validate cfg sw e = []) :
    (runEmf cfg sw ops txt mult nowMs e).1 = .ok ∧
    Decodes (runEmf cfg sw ops txt mult nowMs e).2
      ((emit cfg ops mult e).map (recordJson txt cfg.namespaces.length nowMs)) := by
  have h := (emf_refines_spec_split cfg sw ops txt mult nowMs e hns hm hv).2
  rw [h]
  refine ⟨rfl, (emit cfg ops mult e).map (lineOf txt cfg.namespaces.length nowMs), rfl, ?_⟩
  rw [List.map_map, List.map_map]
  apply List.map_congr_left
  intro r hr
  exact emit_lines_read cfg ops txt ht mult nowMs e r hr

/-- the same for a formatter with any history -/
theorem emf_refines_spec_split_read_reachable (cfg : Config) (sw : Switches) (ops : FloatOps F) (txt : F → List Nat)
    (mult : Option Nat) (nowMs : Nat) (e : Entry F) {s : Emf.State} (hs : Emf.Reachable (toEmfCfg cfg sw) s)
    (hns : cfg.namespaces ≠ []) (hm : multOk mult) (ht : TxtOk ops txt)
    (hv : validate cfg sw e = []) :
    let r := Emf.format (Emf.Consts.ofConfig (toEmfCfg cfg sw)) s (toCall ops txt mult nowMs e)
    r.2.1 = .ok ∧ Decodes r.2.2.bytes ((emit cfg ops mult e).map (recordJson txt cfg.namespaces.length nowMs)) := by
  simp only [Emf.c14_history_independent _ hs]
  exact emf_refines_spec_split_read cfg sw ops txt mult nowMs e hns hm ht hv

theorem recordJson_keys (txt : F → List Nat) (n now : Nat) (r : Record F) :
    (recordJson txt n now r).keys = r.memberNames := by
  simp [recordJson, JVal.keys, Record.memberNames, List.map_map, Function.comp_def]
  rfl

theorem mvalJson_isStr (txt : F → List Nat) (v : MVal F) : (mvalJson txt v).isStr = v.isStr := by
  cases v <;> rfl

theorem recordJson_metricMembers (txt : F → List Nat) (n now : Nat) (r : Record F) :
    (recordJson txt n now r).metricMembers = r.metricMembers.map fun p => (p.1, mvalJson txt p.2) := by
  simp only [recordJson, JVal.metricMembers, Record.metricMembers, List.filter_map]
  congr 1
  apply List.filter_congr
  intro p _
  simp [mvalJson_isStr]

/-- **C03 conservation, on the bytes.** The output of the byte-level model decodes to a list of JSON objects
whose metric members (the non-string members after `_aws`), taken over all lines together, are — as a multiset —
exactly the usable metric fields of the entry (`fieldOf … = some v`), each once, as the JSON value of `v`
(scalar, or `Values` / `Counts` = usable values / occurrences saturating-times multiplicity by `c03_values_counts`);
a metric without a usable observation appears nowhere, nothing else appears. -/
theorem emf_lines_metrics_once (cfg : Config) (sw : Switches) (ops : FloatOps F) (txt : F → List Nat)
    (mult : Option Nat) (nowMs : Nat) (e : Entry F)
    (hns : cfg.namespaces ≠ []) (hm : multOk mult) (ht : TxtOk ops txt)
    (hv : validate cfg sw e = []) :
    ∃ trees, Decodes (runEmf cfg sw ops txt mult nowMs e).2 trees ∧
      (trees.flatMap JVal.metricMembers).Perm
        ((fieldsOf ops mult (metricItems e)).map fun p => (p.1, mvalJson txt p.2)) := by
  refine ⟨_, (emf_refines_spec_split_read cfg sw ops txt mult nowMs e hns hm ht hv).2, ?_⟩
  have h := (c03_metric_once cfg ops mult e).map fun p => (p.1, mvalJson txt p.2)
  refine List.Perm.trans (List.Perm.of_eq ?_) h
  simp only [List.flatMap_map, List.map_flatMap, recordJson_metricMembers]

/-- **C03 presence and declaration, on the bytes.** A metric of the entry with a usable observation is a metric
member of one decoded line — the line of its own route — and, unless flagged no-metric, the record `r` whose tree
that line is declares it with its unit and resolution in the directive of every configured namespace (stated of
`r.directives`; `recordJson` renders them one by one). -/
theorem emf_lines_usable_somewhere (cfg : Config) (sw : Switches) (ops : FloatOps F) (txt : F → List Nat)
    (mult : Option Nat) (nowMs : Nat) (e : Entry F)
    (hns : cfg.namespaces ≠ []) (hm : multOk mult) (ht : TxtOk ops txt)
    (hv : validate cfg sw e = []) (n : Str) (m : Metric F) (v : MVal F)
    (hmem : (n, m) ∈ metricItems e) (hfv : fieldOf ops mult m = some v) :
    ∃ trees, Decodes (runEmf cfg sw ops txt mult nowMs e).2 trees ∧
      ∃ r ∈ emit cfg ops mult e, recordJson txt cfg.namespaces.length nowMs r ∈ trees ∧ r.route = routeOf cfg m ∧
        (n, mvalJson txt v) ∈ (recordJson txt cfg.namespaces.length nowMs r).metricMembers ∧
        ∀ ns ∈ cfg.namespaces, ∃ d ∈ r.directives, d.ns = ns ∧
          (m.flag ≠ .noMetric → (⟨n, m.unit, decide (m.flag = .hires)⟩ : Decl) ∈ d.metrics) := by
  refine ⟨_, (emf_refines_spec_split_read cfg sw ops txt mult nowMs e hns hm ht hv).2, ?_⟩
  obtain ⟨r, hr, hroute, hin⟩ := c03_usable_somewhere cfg ops mult e n m v hmem hfv
  refine ⟨r, hr, List.mem_map.mpr ⟨r, hr, rfl⟩, hroute, ?_, ?_⟩
  · rw [recordJson_metricMembers]
    exact List.mem_map.mpr ⟨(n, v), hin, rfl⟩
  · intro ns hnsm
    exact c03_decl_of_metric cfg ops mult e r hr n m hmem hroute.symm (by simp [hfv]) ns hnsm

/-- **`c08_no_dup_members_partial`, on the bytes.** With all validations on, for an accepted entry without
`AllowUnroutableEntries` whose per-metric dimension keys collide with nothing (`dimKeysDisjoint`, the hypothesis
of C08's record-level theorem — the code does not check it): every line the byte-level model writes reads back
as a JSON object whose member names are pairwise distinct. -/
theorem emf_lines_no_dup_members_partial (cfg : Config) (ops : FloatOps F) (txt : F → List Nat)
    (mult : Option Nat) (nowMs : Nat) (e : Entry F)
    (hns : cfg.namespaces ≠ []) (hm : multOk mult) (ht : TxtOk ops txt)
    (hu : noUnroutable e = true) (hv : validate cfg allOn e = []) (hd : dimKeysDisjoint cfg e = true) :
    (runEmf cfg allOn ops txt mult nowMs e).1 = .ok ∧
    ∃ trees, Decodes (runEmf cfg allOn ops txt mult nowMs e).2 trees ∧ ∀ t ∈ trees, t.keys.Nodup := by
  obtain ⟨h1, h2⟩ := emf_refines_spec_split_read cfg allOn ops txt mult nowMs e hns hm ht hv
  refine ⟨h1, _, h2, ?_⟩
  intro t htm
  obtain ⟨r, hr, rfl⟩ := List.mem_map.mp htm
  rw [recordJson_keys]
  exact (c08_no_dup_members_partial cfg ops mult e hu hv hd).2 r hr

end EmfRefine

#print axioms EmfRefine.emf_refines_spec_split_reachable
#print axioms EmfRefine.emf_refines_spec_split_read
#print axioms EmfRefine.emf_refines_spec_split_read_reachable
#print axioms EmfRefine.emf_lines_metrics_once
#print axioms EmfRefine.emf_lines_usable_somewhere
#print axioms EmfRefine.emf_lines_no_dup_members_partial
