import Props.C06RefineLemmas
/-!
Simulation steps of the events that leave the slots alone (those with a single branch and a one-line proof are cases
of `sim_step`, `Props/C06Refine.lean`), chiefly the three ways in which a thread's drop comes to an end: it returns
(`sim_end`), it released the last reference on the guard cell and goes on as the `iPc` thread (`sim_relG_last`), the
`iPc` thread returns (`sim_finishInner`).
-/
namespace KeepAlive
open Spec

variable {s s' : St} {w w' : Option Nat} {t t' : SSt}

/-- the goal of one simulation step -/
def StepSim (s : St) (w : Option Nat) (t : SSt) (e : Ev) (s' : St) : Prop :=
  ∃ t', feedAll t (obsOf s w e).1 = some t' ∧ Sim s' (obsOf s w e).2 t'

theorem stepSim_zero {e : Ev} (ho : obsOf s w e = ([], w')) (hs : Sim s' w' t) : StepSim s w t e s' := by
  unfold StepSim; rw [ho]; exact ⟨t, rfl, hs⟩

theorem stepSim_one {e : Ev} {o : Obs} (hi : Inv s) (h : step s e = some s') (ho : obsOf s w e = ([o], w'))
    (hf : feed t o = some t') (hs : Sim s' w' t') : StepSim s w t e s' := by
  unfold StepSim; rw [ho]; exact ⟨t', feedAll_one (inv_step hi h) hf hs, hs⟩

theorem stepSim_two {e : Ev} {o1 o2 : Obs} {t1 : SSt} (hi : Inv s) (h : step s e = some s')
    (ho : obsOf s w e = ([o1, o2], w')) (hf1 : feed t o1 = some t1) (h1 : t1.inflight > 0 ∨ t1.apps ≠ 0)
    (hf2 : feed t1 o2 = some t') (hs : Sim s' w' t') : StepSim s w t e s' := by
  unfold StepSim; rw [ho, feedAll_cons hf1 h1]; exact ⟨t', feedAll_one (inv_step hi h) hf2 hs, hs⟩

theorem feed_bR (h : t.refsOut > 0) : feed t .bR = some { t with refsOut := t.refsOut - 1, inflight := t.inflight + 1 } := by simp [feed, h]
theorem feed_eR (h : t.inflight > 0) : feed t .eR = some { t with inflight := t.inflight - 1 } := by simp [feed, h]
theorem feed_bF (h : t.fgOut > 0) : feed t .bF = some { t with fgOut := t.fgOut - 1, inflight := t.inflight + 1 } := by simp [feed, h]
theorem feed_eF (h : t.inflight > 0) : feed t .eF = some { t with inflight := t.inflight - 1 } := by simp [feed, h]
theorem feed_bD (h : t.dgOut > 0) : feed t .bD =
    some { t with dgOut := t.dgOut - 1, dgBegun := t.dgBegun + 1, inflight := t.inflight + 1 } := by simp [feed, h]
theorem feed_eD (h : t.inflight > 0) : feed t .eD = some { t with inflight := t.inflight - 1, dgEnded := t.dgEnded + 1 } := by
  simp [feed, h]

theorem feed_eG {i : Nat} {tl : SSlot} (htl : t.slots[i]? = some tl) (h1 : tl.gone = true) (h2 : tl.ended = false)
    (h3 : t.inflight > 0) : feed t (.eG i) =
      some { t with slots := modifyAt (fun sl => { sl with ended := true, sure := !cond t }) t.slots i,
                    inflight := t.inflight - 1 } := by
  simp [feed, htl, h1, h2, h3]

theorem sim_refDrop (hi : Inv s) (hsim : Sim s w t) (h : step s .refDrop = some s') : StepSim s w t .refDrop s' := by
  have hrefs := hsim.refs
  have hinfl := hsim.infl
  cases step_cases h with
  | refDropLast hu hone =>
    have hidle : pF s.pPc = 0 := by rw [hi.hpc.1 hu.1]; rfl
    exact stepSim_one hi h (by rw [obsOf, if_pos hone]) (feed_bR (hsim.refs ▸ hu.1))
      { hsim with refs := by dsimp only; omega, infl := by simp only [pF]; omega }
  | refDrop hu hone =>
    exact stepSim_two hi h (by rw [obsOf, if_neg hone]) (feed_bR (hsim.refs ▸ hu.1)) (.inl (Nat.succ_pos _))
      (feed_eR (Nat.succ_pos _)) { hsim with refs := congrArg (· - 1) hsim.refs }

theorem sim_dgBegin (hi : Inv s) (hsim : Sim s w t) (h : step s .dgBegin = some s') : StepSim s w t .dgBegin s' := by
  have hinfl := hsim.infl
  cases step_cases h with
  | dgBeginDead hpos hz =>
    exact stepSim_two hi h (by rw [obsOf, if_pos hz]) (feed_bD (hsim.dg ▸ hpos)) (.inl (Nat.succ_pos _))
      (feed_eD (Nat.succ_pos _))
      { hsim with dg := congrArg (· - 1) hsim.dg, dgb := congrArg (· + 1) hsim.dgb, dge := congrArg (· + 1) hsim.dge }
  | dgBegin hpos hz =>
    exact stepSim_one hi h (by rw [obsOf, if_neg hz]) (feed_bD (hsim.dg ▸ hpos))
      { hsim with dg := congrArg (· - 1) hsim.dg, dgb := congrArg (· + 1) hsim.dgb, infl := by dsimp only; omega }

theorem sim_dgLock (hi : Inv s) (hsim : Sim s w t) (h : step s .dgLock = some s') : StepSim s w t .dgLock s' := by
  have hinfl := hsim.infl
  have hfree : s.lock = false → lF s.lPc = 0 := fun hlock => by
    rw [hi.lPc_free hlock]; rfl
  cases step_cases h with
  | dgLockTake hu => have := hfree hu.2; exact stepSim_zero rfl { hsim with infl := by simp only [lF]; omega }
  | dgLock hu => have := hfree hu.2; exact stepSim_zero rfl { hsim with infl := by simp only [lF]; omega }

/-! A thread that is about to release its reference on the guard cell stands at no program point of the model; in the
statements below it is counted at `nDec`. -/

/-- end observation of a thread of kind `k`; `v` tells a free flush guard from the one in a slot guard -/
def endObs (k : Kind) (v : Option Nat) : Obs :=
  match k with
  | .parent => .eR
  | .dg => .eD
  | .fg => endFg v

/-- slot guard `i` has sent and is gone from its slot, its drop has not returned -/
def Leaving (s : St) (t : SSt) (i : Nat) : Prop :=
  ∃ sl, s.slots[i]? = some sl ∧ sl.opened = true ∧ sl.g = .none ∧ ((!cond t) = true → sl.sentOk = true) ∧
    ∀ tl, t.slots[i]? = some tl → tl.ended = false

theorem sim_end (k : Kind) (v : Option Nat) (g : Nat) (hsim : Sim { s with nDec := s.nDec + 1 } w t)
    (hv : k = .fg → ∀ i, v = some i → Leaving s t i ∧ ¬ PendAt s w i) :
    ∃ t', feed t (endObs k v) = some t' ∧
      Sim { s with gS := g, dgDone := if k = .dg then s.dgDone + 1 else s.dgDone } w t' := by
  have hinfl := hsim.infl
  have h0 : t.inflight > 0 := by dsimp only at hinfl; omega
  have hinfl' : t.inflight - 1 = pF s.pPc + iF s.iPc + s.nUp + lF s.lPc + s.nDec + sumBy sentBy s.slots := by
    dsimp only at hinfl; omega
  cases k with
  | parent => exact ⟨_, feed_eR h0, { hsim with infl := hinfl' }⟩
  | dg => exact ⟨_, feed_eD h0, { hsim with infl := hinfl', dge := congrArg (· + 1) hsim.dge }⟩
  | fg =>
    cases v with
    | none => exact ⟨_, feed_eF h0, { hsim with infl := hinfl' }⟩
    | some i =>
      obtain ⟨⟨sl, hsl, hop, hg, hsure, hend⟩, hnp⟩ := hv rfl i rfl
      obtain ⟨tl, htl⟩ := hsim.getElem? hsl
      have hss := hsim.slots i sl tl hsl htl
      refine ⟨_, feed_eG htl (hss.gone.2 ⟨hop, by simp [hg]⟩) (hend tl htl) h0, ?_⟩
      obtain ⟨⟨hl, hs, hw⟩, -, -⟩ := sim_slots_mod (g := fun tl => { tl with ended := true, sure := !cond t }) hsim hsl htl
        (modifyAt_id ..).symm rfl (fun _ _ hp => hp) { hss with ended := fun _ => ⟨hop, hg, hnp⟩, sure := hsure }
      exact { hsim with infl := hinfl', len := hl, slots := hs, wlen := hw }

theorem sim_relG_last (k : Kind) (v : Option Nat) (hsim : Sim { s with nDec := s.nDec + 1 } w t) (hidle : s.iPc = .idle)
    (hv : k = .fg → ∀ i, v = some i → Leaving s t i) :
    Sim { s with gS := 0, iPc := .pending, iBy := k } v t := by
  have hinfl := hsim.infl
  refine { hsim with
    infl := by rw [hidle] at hinfl; simp only [iF] at hinfl ⊢; omega
    slots := fun i sl tl hsl htl => ?_
    wlen := fun i hp => ?_ }
  · have hss : SlotSim False sl tl := (hsim.slots i sl tl hsl htl).mono False.elim
    refine { hss with ended := fun he => ⟨(hss.ended he).1, (hss.ended he).2.1, fun hp => ?_⟩, pend := fun hp => ?_ }
    all_goals
      obtain ⟨sl', hsl', hop, hg, -, hend⟩ := hv hp.2.1 i hp.2.2
      cases hsl.symm.trans hsl'
    · exact absurd he (by simp [hend tl htl])
    · exact ⟨hop, hg⟩
  · obtain ⟨sl', hsl', -⟩ := hv hp.2.1 i hp.2.2
    exact (List.getElem?_eq_some_iff.1 hsl').1

theorem stepSim_relG {e : Ev} {k : Kind} {v : Option Nat} {pre : List Obs} {s₁ : St} {t₁ : SSt}
    (hi : Inv s) (h : step s e = some (relG k s₁))
    (ho : obsOf s w e = (pre ++ relObs s₁ (endObs k v), relWho s₁ w v)) (hpre : feedAll t pre = some t₁)
    (hsim : Sim { s₁ with nDec := s₁.nDec + 1 } w t₁) (hidle : s₁.iPc = .idle)
    (hv : k = .fg → ∀ i, v = some i → Leaving s₁ t₁ i) : StepSim s w t e (relG k s₁) := by
  have hi' := inv_step hi h
  unfold StepSim
  rw [ho, feedAll_append hpre, relObs, relWho]
  rw [relG_eq] at hi' ⊢
  by_cases hz : s₁.gS ≤ 1
  · have hz' : s₁.gS - 1 = 0 := by omega
    rw [if_pos hz, if_pos hz', if_pos hz']
    exact ⟨t₁, rfl, sim_relG_last k v hsim hidle hv⟩
  · have hz' : ¬ s₁.gS - 1 = 0 := by omega
    rw [if_neg hz] at hi' ⊢
    rw [if_neg hz', if_neg hz']
    obtain ⟨t', hf, hs⟩ := sim_end k v (s₁.gS - 1) hsim fun hk i hi =>
      ⟨hv hk i hi, fun hp => hp.1.elim (by simp [hidle]) (by simp [hidle])⟩
    exact ⟨t', feedAll_one hi' hf hs, hs⟩

theorem sim_fgDrop (hi : Inv s) (hsim : Sim s w t) (h : step s .fgDrop = some s') : StepSim s w t .fgDrop s' := by
  cases step_cases h with | fgDrop hlt =>
  have hfg := hsim.fg
  have hinfl := hsim.infl
  have h0 := hsim.fgOut_pos hlt
  exact stepSim_relG (k := .fg) (v := none) (pre := [.bF]) hi h rfl (feedAll_cons (feed_bF h0) (.inl (Nat.succ_pos _)) [])
    { hsim with fg := by dsimp only; omega, infl := by dsimp only; omega }
    (hi.iPc_idle (by have := hi.fgLive_le_gS; omega)) (fun _ _ hi => nomatch hi)

theorem sim_dgDec (hi : Inv s) (hsim : Sim s w t) (h : step s .dgDec = some s') : StepSim s w t .dgDec s' := by
  cases step_cases h with | dgDec hpos =>
  have hinfl := hsim.infl
  exact stepSim_relG (k := .dg) (v := w) (pre := []) hi h (by rw [relWho, ite_self]; rfl) rfl
    { hsim with infl := by dsimp only; omega } (hi.iPc_idle (by have := hi.gcount; omega)) (fun hk => nomatch hk)

theorem sim_pDecG (hi : Inv s) (hsim : Sim s w t) (h : step s .pDecG = some s') : StepSim s w t .pDecG s' := by
  cases step_cases h with | pDecG hpc =>
  have hinfl := hsim.infl
  have hg := hi.gcount
  rw [hpc] at hinfl hg
  exact stepSim_relG (k := .parent) (v := w) (pre := []) hi h (by rw [relWho, ite_self]; rfl) rfl
    { hsim with infl := by simp only [pF] at hinfl ⊢; omega } (hi.iPc_idle (by simp only [pG] at hg; omega))
    (fun hk => nomatch hk)

theorem sure_sent {sl : Slot} (hsim : Sim s w t) (hsinv : SInv s) (hmem : sl ∈ s.slots) (hop : sl.opened = true)
    (hg : sl.g ≠ .live) (hsure : (!Spec.cond t) = true) : sl.sentOk = true := by
  simp [Spec.cond] at hsure
  rcases (hsinv.ok sl hmem).gone hop hg with h | h
  · exact h
  · exfalso
    have := hsinv.g0 ⟨sl, hmem, h⟩
    have r1 := hsim.refs
    have r2 := hsim.fg
    have r4 := hsim.dgb
    omega

theorem sim_finishInner (hsim : Sim s w t) (hact : s.iPc = .pending ∨ s.iPc = .app)
    (hsure : ∀ sl ∈ s.slots, sl.opened = true → sl.g ≠ .live → (!cond t) = true → sl.sentOk = true) :
    ∃ t', feed t (innerEnd s w) = some t' ∧ Sim (finishInner s) w t' := by
  have hif : iF s.iPc = 1 := by rcases hact with h | h <;> rw [h] <;> rfl
  have hinfl := hsim.infl
  have hdone : ∀ i, ¬ PendAt { s with iPc := .done, nDec := s.nDec + 1 } w i := fun i hp => by simp [PendAt] at hp
  obtain ⟨hs, hw⟩ := sim_slots_mono (s' := { s with iPc := .done, nDec := s.nDec + 1 }) (w' := w) (t' := t) hsim rfl rfl
    fun i hp => absurd hp (hdone i)
  refine sim_end s.iBy w s.gS (s := { s with iPc := .done })
    { hsim with infl := by simp only [iF]; omega, slots := hs, wlen := hw } fun hk i hi => ?_
  have hp : PendAt s w i := ⟨hact, hk, hi⟩
  have hlt := hsim.wlen i hp
  have hsl : s.slots[i]? = some s.slots[i] := List.getElem?_eq_getElem hlt
  obtain ⟨tl, htl⟩ := hsim.getElem? hsl
  obtain ⟨hop, hg⟩ := (hsim.slots i _ tl hsl htl).pend hp
  exact ⟨⟨_, hsl, hop, hg, hsure _ (List.getElem_mem hlt) hop (by simp [hg]),
    fun tl' htl' => Bool.eq_false_iff.2 fun he => ((hsim.slots i _ tl' hsl htl').ended he).2.2 hp⟩, hdone i⟩

theorem sim_innerDrop (hi : Inv s) (hsinv : SInv s) (hsim : Sim s w t) (h : step s .innerDrop = some s') :
    StepSim s w t .innerDrop s' := by
  have hsure := fun sl hm => sure_sent (sl := sl) hsim hsinv hm
  cases step_cases h with
  | innerDrop hpc hcl =>
    obtain ⟨t', hf, hs'⟩ := sim_finishInner hsim (.inl hpc) hsure
    exact stepSim_one hi h (by simp [obsOf, hcl]) hf hs'
  | innerDropLast hpc hcl hv =>
    have hinfl := hsim.infl
    obtain ⟨hs, hw⟩ := sim_slots_mono (s' := { s with closure := false, vS := 0, iPc := .app }) (w' := w) (t' := t)
      hsim rfl rfl fun i hp => ⟨.inl hpc, hp.2⟩
    exact stepSim_zero (by simp [obsOf, hcl, hv])
      { hsim with infl := by rw [hpc] at hinfl; exact hinfl, slots := hs, wlen := hw }
  | innerDropMore hpc hcl hv =>
    obtain ⟨t', hf, hs'⟩ := sim_finishInner (s := { s with closure := false, vS := s.vS - 1 }) { hsim with }
      (.inl hpc) hsure
    exact stepSim_one hi h (by simp [obsOf, hcl, hv, innerEnd]) hf hs'

end KeepAlive
