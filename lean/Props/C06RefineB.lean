import Props.C06RefineA
/-! Simulation steps of the slot events (`open`, `wait_for_data`, `delay_flush`, guard mutation, guard drop) and of
the entry's destructor (`closeSlot`, `emit`). -/
namespace KeepAlive
open Spec

variable {s s' : St} {w w' : Option Nat} {t t' : SSt}

theorem feed_opn {i : Nat} {tl : SSlot} (m : Mode) (v : Nat) (htl : t.slots[i]? = some tl) (h1 : tl.opened = false)
    (h2 : t.refsOut > 0) : feed t (.opn i m v) =
      some { t with slots := modifyAt (fun sl => { sl with opened := true, mode := m, gval := v }) t.slots i } := by
  simp [feed, htl, h1, h2]

theorem feed_opnFail_w (h : t.fgOut > 0) : feed t (.opnFail .wait) = some { t with fgOut := t.fgOut - 1 } := by
  simp [feed, h]

theorem feed_opnFail_d : feed t (.opnFail .discard) = some t := rfl

theorem feed_delay_w {i : Nat} {tl : SSlot} (htl : t.slots[i]? = some tl) (h1 : tl.opened = true) (h2 : tl.gone = false)
    (h3 : t.fgOut > 0) (h4 : tl.mode = .wait) : feed t (.delay i) = some { t with fgOut := t.fgOut - 1 } := by
  simp [feed, htl, h1, h2, h3, h4]

theorem feed_delay_d {i : Nat} {tl : SSlot} (htl : t.slots[i]? = some tl) (h1 : tl.opened = true) (h2 : tl.gone = false)
    (h3 : t.fgOut > 0) (h4 : tl.mode ≠ .wait) : feed t (.delay i) =
      some { t with slots := modifyAt (fun sl => { sl with mode := .wait }) t.slots i } := by
  simp [feed, htl, h1, h2, h3, h4]

theorem feed_gm {i : Nat} {tl : SSlot} (v : Nat) (htl : t.slots[i]? = some tl) (h1 : tl.opened = true) (h2 : tl.gone = false) :
    feed t (.gm i v) = some { t with slots := modifyAt (fun sl => { sl with gval := v }) t.slots i } := by
  simp [feed, htl, h1, h2]

theorem feed_bG {i : Nat} {tl : SSlot} (htl : t.slots[i]? = some tl) (h1 : tl.opened = true) (h2 : tl.gone = false) :
    feed t (.bG i) = some { t with slots := modifyAt (fun sl => { sl with gone := true }) t.slots i,
                                   inflight := t.inflight + 1,
                                   fgOut := if tl.mode = .wait then t.fgOut - 1 else t.fgOut } := by
  simp [feed, htl, h1, h2]

theorem sim_setSlot {f : Slot → Slot} {g : SSlot → SSlot} {i : Nat} {sl : Slot} {tl : SSlot} (hsim : Sim s w t)
    (hsl : s.slots[i]? = some sl) (htl : t.slots[i]? = some tl) (hS : sentBy (f sl) = sentBy sl)
    (hW : sentWBy (f sl) = sentWBy sl) (hi : SlotSim (PendAt s w i) (f sl) (g tl)) :
    Sim (setSlot s i f) w { t with slots := modifyAt g t.slots i } := by
  obtain ⟨⟨hl, hs, hw⟩, eS, eW⟩ := sim_slots_mod hsim hsl htl rfl rfl (fun _ _ hp => hp) hi
  have hfg := hsim.fg
  have hinfl := hsim.infl
  exact { hsim with len := hl, slots := hs, wlen := hw, fg := by dsimp only [setSlot]; omega,
                    infl := by dsimp only [setSlot]; omega }

theorem SlotSim.live {p : Prop} {sl : Slot} {tl : SSlot} (h : SlotSim p sl tl) (hok : SlotOk sl) (hg : sl.g = .live) :
    sl.opened = true ∧ tl.opened = true ∧ tl.gone = false := by
  have hop : sl.opened = true := by
    cases ho : sl.opened with
    | true => rfl
    | false => rw [hok.unopened ho] at hg; cases hg
  exact ⟨hop, h.opened.trans hop, Bool.eq_false_iff.2 fun hgo => (h.gone.1 hgo).2 hg⟩

theorem sim_gmut (i v : Nat) (hi : Inv s) (hsinv : SInv s) (hsim : Sim s w t) (h : step s (.gmut i v) = some s') :
    StepSim s w t (.gmut i v) s' := by
  cases step_cases h with | gmut _ _ sl hsl hg =>
  obtain ⟨tl, htl⟩ := hsim.getElem? hsl
  have hss := hsim.slots i sl tl hsl htl
  obtain ⟨-, hop, hgo⟩ := hss.live (hsinv.ok sl (List.mem_of_getElem? hsl)) hg
  exact stepSim_one hi h rfl (feed_gm v htl hop hgo) (sim_setSlot hsim hsl htl rfl rfl { hss with gval := rfl })

theorem sim_wait_slots {i : Nat} {sl : Slot} {b : Option Nat} (hsim : Sim s w t) (hsl : s.slots[i]? = some sl) :
    Sim { setSlot s i (fun _ => (poll sl).1) with borrowed := b } w t := by
  obtain ⟨tl, htl⟩ := hsim.getElem? hsl
  obtain ⟨o1, o2, o3, o4, o5, o6, o7⟩ := hsim.slots i sl tl hsl htl
  obtain ⟨p1, p2, p3, p4, p5, p6, -⟩ := poll_same sl
  have := sim_setSlot (f := fun _ => (poll sl).1) (g := fun x => x) hsim hsl htl (by simp only [sentBy, p5])
    (by simp only [sentWBy, p5, p3]) (by refine ⟨?_, ?_, ?_, ?_, ?_, ?_, ?_⟩ <;> simp only [p2, p3, p4, p5, p6] <;> assumption)
  rw [modifyAt_id] at this
  exact { this with }

theorem sim_dropFG (hsim : Sim s w t) (h0 : t.fgOut > 0) (hg : s.gS > 1) :
    Sim (dropFG s) w { t with fgOut := t.fgOut - 1 } := by
  have hfg := hsim.fg
  rw [dropFG, relG_eq, if_neg (by dsimp only; omega)]
  exact { hsim with fg := by dsimp only; omega }

theorem sim_delay (i : Nat) (hi : Inv s) (hsinv : SInv s) (hsim : Sim s w t) (h : step s (.delay i) = some s') :
    StepSim s w t (.delay i) s' := by
  have key : ∀ {sl : Slot}, s.slots[i]? = some sl → sl.g = .live → held s.slots < s.fgLive →
      ∃ tl, t.slots[i]? = some tl ∧ SlotSim (PendAt s w i) sl tl ∧ tl.opened = true ∧ tl.gone = false ∧ t.fgOut > 0 :=
    fun hsl hg hlt => by
      obtain ⟨tl, htl⟩ := hsim.getElem? hsl
      have hss := hsim.slots i _ tl hsl htl
      obtain ⟨-, hop, hgo⟩ := hss.live (hsinv.ok _ (List.mem_of_getElem? hsl)) hg
      exact ⟨tl, htl, hss, hop, hgo, hsim.fgOut_pos hlt⟩
  cases step_cases h with
  | delayAgain _ sl hsl hc hm =>
    obtain ⟨tl, htl, hss, hop, hgo, hfo⟩ := key hsl hc.1 hc.2
    have h1 := held_pos hsl (by simp [hc.1]) hm
    have h2 := hi.fgLive_le_gS
    exact stepSim_one hi h rfl (feed_delay_w htl hop hgo hfo (hss.mode.trans hm)) (sim_dropFG hsim hfo (by omega))
  | delay _ sl hsl hc hm =>
    obtain ⟨tl, htl, hss, hop, hgo, hfo⟩ := key hsl hc.1 hc.2
    exact stepSim_one hi h rfl (feed_delay_d htl hop hgo hfo (by simp [hss.mode, hm]))
      (sim_setSlot hsim hsl htl rfl (by simp [sentWBy, hc.1]) { hss with mode := rfl })

theorem sim_open (i : Nat) (m : Mode) (v0 : Nat) (hi : Inv s) (hsinv : SInv s) (hsim : Sim s w t)
    (h : step s (.open i m v0) = some s') : StepSim s w t (.open i m v0) s' := by
  cases step_cases h with
  | openAgainWait _ _ _ sl hsl hu hopn hm =>
    subst hm
    have h1 := hi.fgLive_le_gS
    rw [hi.hpc.1 (ownerUsable_iff.1 hu.1).1] at h1
    have h0 := hsim.fgOut_pos (hu.2 rfl)
    exact stepSim_one hi h (by simp [obsOf, hsl, hopn]) (feed_opnFail_w h0)
      (sim_dropFG hsim h0 (by simp only [pG] at h1; have := hu.2 rfl; omega))
  | openAgain _ _ _ sl hsl hu hopn hm =>
    obtain rfl : m = .discard := by cases m <;> simp_all
    exact stepSim_one hi h (by simp [obsOf, hsl, hopn]) feed_opnFail_d hsim
  | «open» _ _ _ sl hsl hu hopn =>
    obtain ⟨tl, htl⟩ := hsim.getElem? hsl
    have hss := hsim.slots i sl tl hsl htl
    have hopn : sl.opened = false := Bool.eq_false_iff.2 hopn
    have hgn := (hsinv.ok sl (List.mem_of_getElem? hsl)).unopened hopn
    have hno : ∀ {q : Prop}, sl.opened = true → q := fun ho => by rw [hopn] at ho; cases ho
    exact stepSim_one hi h (by simp [obsOf, hsl, hopn]) (feed_opn m _ htl (hss.opened.trans hopn) (hsim.refs_pos hu.1))
      (sim_setSlot hsim hsl htl (by simp [sentBy, hgn]) (by simp [sentWBy, hgn])
        { opened := rfl, mode := rfl, gval := rfl, gone := ⟨fun hg => hno (hss.gone.1 hg).1, fun hg => absurd rfl hg.2⟩,
          ended := fun he => hno (hss.ended he).1, sure := hss.sure, pend := fun hp => hno (hss.pend hp).1 })

theorem sim_gSend (i : Nat) (hi : Inv s) (hsinv : SInv s) (hsim : Sim s w t) (h : step s (.gSend i) = some s') :
    StepSim s w t (.gSend i) s' := by
  cases step_cases h with | gSend _ sl hsl hg =>
  obtain ⟨tl, htl⟩ := hsim.getElem? hsl
  have hss := hsim.slots i sl tl hsl htl
  have hok := hsinv.ok sl (List.mem_of_getElem? hsl)
  obtain ⟨hop, hto, hgo⟩ := hss.live hok hg
  have hnone : ∀ {q : Prop}, sl.g = .none → q := fun hn => by rw [hg] at hn; cases hn
  -- the flush guard of a live wait-mode slot guard is still counted as out
  have h0 : sl.mode = .wait → t.fgOut > 0 := fun hm => by
    have := hsim.fg
    have := held_split s.slots
    have := hi.heldle
    have := sumBy_le (f := liveWBy) hsl
    rw [liveWBy, if_pos ⟨hg, hm⟩] at this
    omega
  refine stepSim_one hi h rfl (feed_bG htl hto hgo) ?_
  obtain ⟨⟨hl, hs, hw⟩, eS, eW⟩ := sim_slots_mod (g := fun tl => { tl with gone := true })
    (f := fun sl => { sl with g := .sent, cell := if sl.rx then some sl.gval else none, sentOk := sl.closedAs.isNone })
    hsim hsl htl rfl rfl (fun _ _ hp => hp)
    { hss with gone := ⟨fun _ => ⟨hop, by simp⟩, fun _ => rfl⟩, ended := fun he => hnone (hss.ended he).2.1,
               sure := fun hs => absurd hg (hok.sentg (hss.sure hs)).1, pend := fun hp => hnone (hss.pend hp).2 }
  have hfg := hsim.fg
  have hinfl := hsim.infl
  simp only [sentBy, sentWBy, hg] at eS eW
  refine { hsim with len := hl, slots := hs, wlen := hw, infl := by simp at eS; dsimp only [setSlot]; omega, fg := ?_ }
  rw [hss.mode]
  cases hm : sl.mode <;> simp [hm] at eW h0 ⊢ <;> dsimp only [setSlot] <;> omega

theorem sim_gRelease (i : Nat) (hi : Inv s) (hsinv : SInv s) (hsim : Sim s w t) (h : step s (.gRelease i) = some s') :
    StepSim s w t (.gRelease i) s' := by
  obtain ⟨sl, hsl, hg⟩ : ∃ sl, s.slots[i]? = some sl ∧ sl.g = .sent := by
    cases step_cases h with
    | gRelease _ sl a b | gReleaseWait _ sl a b => exact ⟨sl, a, b⟩
  obtain ⟨tl, htl⟩ := hsim.getElem? hsl
  have hss := hsim.slots i sl tl hsl htl
  have hmem := List.mem_of_getElem? hsl
  have hnone : ∀ {q : Prop}, sl.g = .none → q := fun hn => by rw [hg] at hn; cases hn
  have hop : sl.opened = true := by
    cases ho : sl.opened with
    | true => rfl
    | false => exact hnone ((hsinv.ok sl hmem).unopened ho)
  have hnp : ¬ PendAt s w i := fun hp => hnone (hss.pend hp).2
  have hend : tl.ended = false := Bool.eq_false_iff.2 fun he => hnone (hss.ended he).2.1
  have hgS : sl.mode = .wait → s.gS > 0 := fun hm => by
    have := hi.fgLive_le_gS
    have := hi.heldle
    have := held_pos hsl (by simp [hg]) hm
    omega
  -- the guard is gone from its slot; its thread is still in flight
  obtain ⟨⟨hl, hs, hw⟩, eS, eW⟩ := sim_slots_mod (f := fun sl => { sl with g := .none }) hsim hsl htl rfl (modifyAt_id ..).symm
    (fun _ _ hp => hp)
    { hss with gone := ⟨fun _ => ⟨hop, by simp⟩, fun _ => hss.gone.2 ⟨hop, by simp [hg]⟩⟩,
               ended := fun he => (by rw [hend] at he; cases he), pend := fun hp => absurd hp hnp }
  have hleave : Leaving (setSlot s i fun sl => { sl with g := .none }) t i :=
    ⟨{ sl with g := .none }, by simp [setSlot, getElem?_modifyAt, hsl], hop, rfl, sure_sent (sl := sl) hsim hsinv hmem hop (by simp [hg]),
      fun tl' htl' => by cases htl.symm.trans htl'; exact hend⟩
  have hfg := hsim.fg
  have hinfl := hsim.infl
  simp only [sentBy, sentWBy, hg] at eS eW
  simp at eS
  cases step_cases h with
  | gRelease _ sl' hsl' _ hm =>
    cases hsl.symm.trans hsl'
    have hm : sl.mode = .discard := by cases h : sl.mode <;> simp_all
    simp [hm] at eW
    obtain ⟨t', hf, hs'⟩ := sim_end .fg (some i) s.gS (s := setSlot s i fun sl => { sl with g := .none })
      { hsim with len := hl, slots := hs, wlen := hw, fg := by dsimp only [setSlot]; omega,
                  infl := by dsimp only [setSlot]; omega }
      fun _ j hj => by cases hj; exact ⟨hleave, hnp⟩
    exact stepSim_one hi h (by simp [obsOf, hsl, hm]; rfl) hf hs'
  | gReleaseWait _ sl' hsl' _ hm =>
    cases hsl.symm.trans hsl'
    simp [hm] at eW
    exact stepSim_relG (k := .fg) (v := some i) (pre := []) hi h (by simp only [obsOf, hsl, hm, if_true]; rfl) rfl
      { hsim with len := hl, slots := hs, wlen := hw, fg := by dsimp only [setSlot]; omega,
                  infl := by dsimp only [setSlot]; omega }
      (hi.iPc_idle (hgS hm)) fun _ j hj => by cases hj; exact hleave

theorem sim_closeSlot (hsim : Sim s w t) (h : step s .closeSlot = some s') : StepSim s w t .closeSlot s' := by
  cases step_cases h with | closeSlot l _ hl =>
  obtain ⟨j, sl, hsl, -, rfl⟩ := closeFirst_eq hl
  obtain ⟨tl, htl⟩ := hsim.getElem? hsl
  have := sim_setSlot (f := closeSlot1) (g := fun x => x) hsim hsl htl rfl rfl { hsim.slots j sl tl hsl htl with }
  rw [modifyAt_id] at this
  exact stepSim_zero rfl this

theorem slotsOk_of (forced : Bool) : ∀ (ts : List SSlot) (ss : List Slot), ts.length = ss.length →
    (∀ (i : Nat) (tl : SSlot) (sl : Slot), ts[i]? = some tl → ss[i]? = some sl →
      slotOk forced tl (sl.closedAs.getD none) = true) →
    slotsOk forced ts (closedVals ss) = true
  | [], [], _, _ => rfl
  | tl :: ts, sl :: ss, hl, h => by
    simp only [closedVals, List.map_cons, slotsOk, Bool.and_eq_true]
    exact ⟨h 0 tl sl rfl rfl, slotsOk_of forced ts ss (by simpa using hl)
      (fun i a b h1 h2 => h (i + 1) a b (by simpa using h1) (by simpa using h2))⟩
  | [], _ :: _, hl, _ => by simp at hl
  | _ :: _, [], hl, _ => by simp at hl

/-- C13 clauses of the specification for one closed field -/
theorem slotOk_of_sim {p : Prop} {forced : Bool} {sl : Slot} {tl : SSlot} (hss : SlotSim p sl tl) (hok : SlotOk sl)
    {r : Option Nat} (hc : sl.closedAs = some r)
    (hg1 : sl.opened = true → sl.mode = .wait → forced = false → sl.sentOk = true) : slotOk forced tl r = true := by
  have hr := hok.closed r hc
  obtain ⟨o1, o2, o3, o4, o5, o6, o7⟩ := hss
  cases hso : sl.sentOk with
  | true =>
    obtain ⟨a, b⟩ := hok.sentg hso
    have hgone : tl.gone = true := o4.mpr ⟨b, a⟩
    simp [hso] at hr
    subst hr
    simp [slotOk, o1, b, hgone, o3]
  | false =>
    simp [hso] at hr
    subst hr
    cases hto : tl.opened <;> cases htg : tl.gone <;> simp [slotOk, hto, htg]
    have hop : sl.opened = true := by rw [← o1]; exact hto
    constructor
    · by_cases hm : tl.mode = .wait
      · right
        cases hf : forced with
        | true => rfl
        | false =>
          have := hg1 hop (by rw [← o2]; exact hm) hf
          rw [hso] at this; cases this
      · exact Or.inl hm
    · cases hsu : tl.sure with
      | false => rfl
      | true => have := o6 hsu; rw [hso] at this; cases this

theorem feed_app {p h : Nat} {vs : List (Option Nat)} (h1 : t.apps = 0) (h2 : Spec.cond t = true) (h3 : p = t.plain)
    (h4 : h = t.hits) (h5 : slotsOk (t.dgBegun > 0) t.slots vs = true) :
    feed t (.app p h vs) = some { t with apps := 1 } := by
  simp [feed, h1, h2, h3, h4, h5]

theorem allClosed_get {l : List Slot} (h : allClosed l = true) {i : Nat} {sl : Slot} (hsl : l[i]? = some sl) :
    ∃ r, sl.closedAs = some r := by
  simp only [allClosed, List.all_eq_true] at h
  have := h sl (List.mem_of_getElem? hsl)
  cases hc : sl.closedAs with
  | none => simp [hc] at this
  | some r => exact ⟨r, rfl⟩

theorem pF_emit (p : PPc) : pF (if p = .app then .decG else p) = pF p := by cases p <;> rfl
theorem lF_emit (p : LPc) : lF (if p = .app then .unlock else p) = lF p := by cases p <;> rfl

theorem sim_emit (hi : Inv s) (hsinv : SInv s) (hsim : Sim s w t) (h : step s .emit = some s') : StepSim s w t .emit s' := by
  cases step_cases h with | emit hg =>
  obtain ⟨ha, hall⟩ := hg
  obtain ⟨hh0, hcond⟩ := anyApp_cond_inv hi ha
  have happ0 : s.appended.length = 0 := by rw [(one_app hi ha).2.1]; rfl
  have hrefs := hsim.refs
  have hfg := hsim.fg
  have hdgb := hsim.dgb
  have hfeed : feed t (.app s.plain s.hits (closedVals s.slots)) = some { t with apps := 1 } := by
    refine feed_app (hsim.apps.trans happ0) ?_ hsim.plain.symm hsim.hits.symm (slotsOk_of _ _ _ hsim.len ?_)
    · simp only [Spec.cond, Bool.and_eq_true, Bool.or_eq_true, decide_eq_true_eq]
      omega
    · intro i tl sl htl hsl
      obtain ⟨r, hc⟩ := allClosed_get hall hsl
      have hmem := List.mem_of_getElem? hsl
      rw [hc]
      refine slotOk_of_sim (hsim.slots i sl tl hsl htl) (hsinv.ok sl hmem) hc fun ho hm hf => ?_
      refine hsinv.g1 sl hmem (by simp [hc]) ho hm ?_
      simp at hf; omega
  have hsim1 : Sim { s with appended := s.appended ++ [⟨s.plain, s.hits, closedVals s.slots⟩],
                            pPc := if s.pPc = .app then .decG else s.pPc,
                            lPc := if s.lPc = .app then .unlock else s.lPc } w { t with apps := 1 } :=
    { hsim with apps := by simp [happ0], infl := by dsimp only; rw [pF_emit, lF_emit]; exact hsim.infl }
  have hsure := fun sl hm => sure_sent (sl := sl) hsim hsinv hm
  by_cases hia : s.iPc = .app
  · simp only [hia, true_and] at h ⊢
    obtain ⟨t', hf, hs'⟩ := sim_finishInner hsim1 (.inr hia) hsure
    exact stepSim_two hi h (by rw [obsOf, if_pos hia]; rfl) hfeed (.inr (by simp)) hf hs'
  · simp only [hia, false_and, if_false] at h ⊢
    exact stepSim_one hi h (by rw [obsOf, if_neg hia]) hfeed hsim1

end KeepAlive
