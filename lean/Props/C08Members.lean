import Model.EmfSpec
import Props.C08Lemmas
import Props.C08Inv
/-!
Lifting the entry-level facts of an accepted entry (`noConflict (slots cfg e)`, valid names) to the
records: the member names of every emitted record are pairwise distinct, provided the per-metric
dimension keys collide with nothing (`dimKeysDisjoint`). Used by `Props/C08.lean`
(`c08_no_dup_members_partial`).
-/
namespace EmfSpec

variable {F : Type}

theorem slot_name_mem_valueNames (cfg : Config) (e : Entry F) : ∀ t ∈ slots cfg e, t.name ∈ valueNames e := by
  induction e with
  | nil => simp [slots]
  | cons x e ih =>
    have ih' : ∀ a, ∀ t ∈ slots cfg e, t.name ∈ a :: valueNames e := fun a t ht => List.mem_cons_of_mem _ (ih t ht)
    rcases x with _|_|_|_|_|⟨a, _|_|_|_⟩
    case value.str | value.metric => exact List.forall_mem_cons.mpr ⟨List.mem_cons_self .., ih' a⟩
    case value.error | value.nothing => exact ih' a
    all_goals exact ih

theorem mem_routedTo (cfg : Config) (r : Option Key) (ms : List (Str × Metric F)) (p : Str × Metric F) :
    p ∈ routedTo cfg r ms ↔ p ∈ ms ∧ routeOf cfg p.2 = r := by
  simp [routedTo, List.mem_filter]

theorem strNames_nodup (cfg : Config) (e : Entry F) (hc : noConflict (slots cfg e) = true) :
    (strNames e).Nodup := by
  induction e using snoc_induction with
  | h0 => exact List.nodup_nil
  | hs e x ih =>
    rw [slots_append, noConflict_append] at hc
    rw [strNames_append, List.nodup_append]
    refine ⟨ih hc.1, ?_⟩
    rcases x with _|_|_|_|_|⟨n, _|_|_|_⟩
    case value.str =>
      refine ⟨List.pairwise_singleton _ _, fun a ha b hb => ?_⟩
      rw [List.mem_singleton.mp hb]
      rintro rfl
      exact ((slots_all_str cfg e a).mp fun t ht => hc.2.2 t ht _ (List.mem_singleton.mpr rfl)).1 ha
    all_goals exact ⟨List.nodup_nil, fun _ _ _ h => nomatch h⟩

theorem routedTo_nodup (cfg : Config) (e : Entry F) (r : Option Key) (hc : noConflict (slots cfg e) = true) :
    ((routedTo cfg r (metricItems e)).map (·.1)).Nodup := by
  induction e using snoc_induction with
  | h0 => exact List.nodup_nil
  | hs e x ih =>
    rw [slots_append, noConflict_append] at hc
    rw [metricItems_append, routedTo, List.filter_append, List.map_append, List.nodup_append]
    refine ⟨ih hc.1, ?_⟩
    rcases x with _|_|_|_|_|⟨n, _|m|_|_⟩
    case value.metric =>
      have hne := ((slots_all_met cfg e n _).mp fun t ht => hc.2.2 t ht _ (List.mem_singleton.mpr rfl)).2
      by_cases hr : routeOf cfg m = r
      · simp only [metricItems, List.filter_cons, hr, decide_true, ↓reduceIte, List.filter_nil, List.map_cons,
          List.map_nil, List.mem_singleton]
        refine ⟨List.pairwise_singleton _ _, fun a ha b hb => ?_⟩
        subst hb
        rintro rfl
        obtain ⟨p, hp, rfl⟩ := List.mem_map.mp ha
        have hp' := List.mem_filter.mp hp
        exact hne p.2 ((mem_metricsNamed _ _ _).mpr hp'.1) ((of_decide_eq_true hp'.2).trans hr.symm)
      · simp [metricItems, hr]
    all_goals exact ⟨List.nodup_nil, fun _ _ _ h => nomatch h⟩

theorem fieldsOf_names_sublist (ops : FloatOps F) (mult : Option Nat) (ms : List (Str × Metric F)) :
    ((fieldsOf ops mult ms).map (·.1)).Sublist (ms.map (·.1)) := by
  induction ms with
  | nil => simp [fieldsOf]
  | cons p ms ih =>
    unfold fieldsOf at ih ⊢
    rw [List.filterMap_cons]
    cases h : fieldOf ops mult p.2 with
    | none => simpa [h] using List.Sublist.cons p.1 ih
    | some v => simpa [h] using List.Sublist.cons_cons p.1 ih

theorem mkRecord_memberNames (cfg : Config) (ops : FloatOps F) (mult : Option Nat) (e : Entry F)
    (route : Option Key) (ms : List (Str × Metric F)) (extra : List Directive) :
    (mkRecord cfg ops mult e route ms extra).memberNames
      = awsName :: (((route.getD []).map (·.1) ++ (fieldsOf ops mult ms).map (·.1)) ++ strNames e) := by
  simp [Record.memberNames, mkRecord, strNames, List.map_append, List.map_map, Function.comp_def]

theorem names_nodup (a : Str) (K Fs Ms S : List Str) (hsub : Fs.Sublist Ms)
    (hK : K.Nodup) (hM : Ms.Nodup) (hS : S.Nodup)
    (haK : a ∉ K) (haM : a ∉ Ms) (haS : a ∉ S)
    (hKM : ∀ x ∈ K, x ∉ Ms) (hKS : ∀ x ∈ K, x ∉ S) (hMS : ∀ x ∈ S, x ∉ Ms) :
    (a :: ((K ++ Fs) ++ S)).Nodup := by
  have hss := hsub.subset
  rw [List.nodup_cons, List.nodup_append, List.nodup_append]
  refine ⟨?_, ⟨hK, hsub.nodup hM, ?_⟩, hS, ?_⟩
  · simp only [List.mem_append, not_or]
    exact ⟨⟨haK, fun h => haM (hss h)⟩, haS⟩
  · intro x hx y hy hxy
    exact hKM x hx (hxy ▸ hss hy)
  · intro x hx y hy hxy
    rcases List.mem_append.mp hx with hx | hx
    · exact hKS x hx (hxy ▸ hy)
    · exact hMS y hy (hxy ▸ hss hx)

theorem allSplitKeys_spec (cfg : Config) (e : Entry F) (P : Key → Bool) (h : allSplitKeys cfg e P = true)
    (k : Key) (hk : k ∈ splitKeys cfg e) : P k = true := by
  obtain ⟨p, hp, hr⟩ := (mem_splitKeys cfg e k).mp hk
  unfold allSplitKeys at h
  have := List.all_eq_true.mp h p hp
  simpa [hr] using this

theorem dimKeysDisjoint_spec (cfg : Config) (e : Entry F) (h : dimKeysDisjoint cfg e = true)
    (k : Key) (hk : k ∈ splitKeys cfg e) :
    (k.map (·.1)).Nodup ∧ awsName ∉ k.map (·.1) ∧ (∀ d ∈ k.map (·.1), d ∉ strNames e)
    ∧ ∀ d ∈ k.map (·.1), d ∉ (routedTo cfg (some k) (metricItems e)).map (·.1) := by
  unfold dimKeysDisjoint at h
  simp only [Bool.and_eq_true] at h
  obtain ⟨⟨⟨h1, h2⟩, h3⟩, h4⟩ := h
  have a1 := allSplitKeys_spec cfg e _ h1 k hk
  have a2 := allSplitKeys_spec cfg e _ h2 k hk
  have a3 := allSplitKeys_spec cfg e _ h3 k hk
  have a4 := allSplitKeys_spec cfg e _ h4 k hk
  refine ⟨by simpa using a1, by simpa using a2, ?_, ?_⟩
  · intro d hd
    have := List.all_eq_true.mp a3 d hd
    simpa [strNames] using this
  · intro d hd
    have := List.all_eq_true.mp a4 d hd
    simpa using this

theorem emit_memberNames_nodup (cfg : Config) (ops : FloatOps F) (mult : Option Nat) (e : Entry F)
    (hc : noConflict (slots cfg e) = true) (hn : ∀ n ∈ valueNames e, n ≠ [] ∧ n ≠ awsName)
    (hd : dimKeysDisjoint cfg e = true) :
    ∀ r ∈ emit cfg ops mult e, r.memberNames.Nodup := by
  intro r hr
  obtain ⟨hS, hM⟩ := (slots_forall cfg e fun t => t.name ≠ awsName).mp fun t ht =>
    (hn _ (slot_name_mem_valueNames cfg e t ht)).2
  have haS : awsName ∉ strNames e := fun h => hS _ h rfl
  have haM : ∀ rt, awsName ∉ (routedTo cfg rt (metricItems e)).map (·.1) := by
    intro rt h
    obtain ⟨p, hp, hpn⟩ := List.mem_map.mp h
    exact hM p ((mem_routedTo cfg rt _ p).mp hp).1 hpn
  have hMS : ∀ rt, ∀ x ∈ strNames e, x ∉ (routedTo cfg rt (metricItems e)).map (·.1) := by
    intro rt x hx h
    obtain ⟨p, hp, hpn⟩ := List.mem_map.mp h
    have hp' := ((mem_routedTo cfg rt _ p).mp hp).1
    have hpn : p.1 = x := hpn
    have : p.2 ∈ metricsNamed x e := by rw [mem_metricsNamed, ← hpn]; exact hp'
    rw [str_no_metric cfg e x hc hx] at this
    cases this
  rcases mem_emit hr with ⟨k, hk, rfl, _⟩ | rfl
  · obtain ⟨d1, d2, d3, d4⟩ := dimKeysDisjoint_spec cfg e hd k hk
    rw [mkRecord_memberNames]
    exact names_nodup _ _ _ _ _ (fieldsOf_names_sublist ops mult _) d1 (routedTo_nodup cfg e _ hc)
      (strNames_nodup cfg e hc) d2 (haM _) haS d4 d3 (hMS _)
  · rw [mkRecord_memberNames]
    exact names_nodup _ _ _ _ _ (fieldsOf_names_sublist ops mult _) List.nodup_nil (routedTo_nodup cfg e _ hc)
      (strNames_nodup cfg e hc) (by simp) (haM _) haS (by simp) (by simp) (hMS _)

end EmfSpec
