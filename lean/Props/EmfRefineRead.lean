import Props.EmfRefine
import Props.JsonTreeRoundtrip
/-!
Stage 2 in the words of the reader: the operational line of an entry without split records READS BACK
(`JsonTree.readLine`) as `recordJson` of the declarative record, provided the float text function yields
JSON numbers on usable values (the dtoa law; `Emf.Call.fmtOk` in C02).
-/
namespace EmfRefine
open JsonTree Json EmfSpec

variable {F : Type}

/-- the dtoa law: the text of a usable value, `.0` stripped, is a JSON number -/
def TxtOk (ops : FloatOps F) (txt : F → List Nat) : Prop :=
  ∀ x y, ops.usable x = some y → isNumber (Emf.stripDotZero (txt y)) = true

def NumOk (txt : F → List Nat) : Num F → Prop
  | .int _ => True
  | .flt y => isNumber (Emf.stripDotZero (txt y)) = true

def MValOk (txt : F → List Nat) : MVal F → Prop
  | .str _ => True
  | .scalar x => NumOk txt x
  | .hist vs _ => ∀ v ∈ vs, NumOk txt v

theorem WFL_map {α : Type} (f : α → JVal) (l : List α) (h : ∀ x ∈ l, WF (f x)) : WFL (l.map f) := by
  induction l with
  | nil => trivial
  | cons a l ih =>
    exact ⟨h a List.mem_cons_self, ih fun x hx => h x (List.mem_cons_of_mem _ hx)⟩

theorem WFM_map {α : Type} (f : α → List Nat × JVal) (l : List α) (h : ∀ x ∈ l, WF (f x).2) : WFM (l.map f) := by
  induction l with
  | nil => trivial
  | cons a l ih =>
    exact ⟨h a List.mem_cons_self, ih fun x hx => h x (List.mem_cons_of_mem _ hx)⟩

theorem WFL_append (a b : List JVal) (ha : WFL a) (hb : WFL b) : WFL (a ++ b) := by
  induction a with
  | nil => exact hb
  | cons x xs ih => exact ⟨ha.1, ih ha.2⟩

theorem WF_numTok (txt : F → List Nat) (x : Num F) (h : NumOk txt x) : WF (.num (numTok txt x)) := by
  cases x with
  | int n => exact Json.isNumber_natDigits n
  | flt y => exact h

theorem WF_mvalJson (txt : F → List Nat) (v : MVal F) (h : MValOk txt v) : WF (mvalJson txt v) := by
  cases v with
  | str s => trivial
  | scalar x => exact WF_numTok txt x h
  | hist vs cs =>
    refine ⟨WFL_map _ _ fun v hv => WF_numTok txt v (h v hv), ⟨WFL_map _ _ fun c _ => Json.isNumber_natDigits c, trivial⟩⟩

theorem WF_declJson (d : Decl) : WF (declJson d) := by
  obtain ⟨n, u, hi⟩ := d
  cases u <;> cases hi <;> simp [declJson, WF, WFM] <;> decide

theorem WF_extraDeclJson (d : Decl) : WF (extraDeclJson d) := by
  obtain ⟨n, u, hi⟩ := d
  cases hi <;> simp [extraDeclJson, WF, WFM] <;> decide

theorem WF_dimsJson (dims : List (List Str)) : WF (dimsJson dims) :=
  WFL_map _ _ fun _ _ => WFL_map _ _ fun _ _ => trivial

theorem WF_nsDirective (d : Directive) : WF (nsDirectiveJson d) :=
  ⟨trivial, WF_dimsJson _, WFL_map _ _ fun m _ => WF_declJson m, trivial⟩

theorem WF_extraDirective (d : Directive) : WF (extraDirectiveJson d) :=
  ⟨WF_dimsJson _, WFL_map _ _ fun m _ => WF_extraDeclJson m, trivial, trivial⟩

theorem WF_recordJson (txt : F → List Nat) (n now : Nat) (r : Record F)
    (h : ∀ m ∈ r.members, MValOk txt m.2) : WF (recordJson txt n now r) := by
  refine ⟨?_, WFM_map _ _ fun m hm => WF_mvalJson txt m.2 (h m hm)⟩
  have hd : WF (JVal.arr ((r.directives.take n).map nsDirectiveJson ++ (r.directives.drop n).map extraDirectiveJson)) :=
    WFL_append _ _ (WFL_map _ _ fun d _ => WF_nsDirective d) (WFL_map _ _ fun d _ => WF_extraDirective d)
  cases r.logGroup with
  | none => exact ⟨hd, Json.isNumber_natDigits _, trivial⟩
  | some g => exact ⟨hd, trivial, Json.isNumber_natDigits _, trivial⟩

theorem fieldOf_ok (ops : FloatOps F) (txt : F → List Nat) (ht : TxtOk ops txt) (mult : Option Nat) (m : Metric F)
    (v : MVal F) (h : fieldOf ops mult m = some v) : MValOk txt v := by
  have hobs : ∀ (o : Obs F) (p : Num F × Nat), obsOut ops mult o = some p → NumOk txt p.1 := by
    intro o p hp
    obtain ⟨v, hv, rfl⟩ := Option.map_eq_some_iff.mp hp
    cases o with
    | unsigned n => cases hv; trivial
    | floating x => obtain ⟨y, hy, rfl⟩ := Option.map_eq_some_iff.mp hv; exact ht x y hy
    | repeated t k => obtain ⟨y, hy, rfl⟩ := Option.map_eq_some_iff.mp hv; exact ht _ y hy
  have hhist : ∀ obs : List (Obs F), ∀ v ∈ (usableObs ops mult obs).map (·.1), NumOk txt v := by
    intro obs v hv
    obtain ⟨p, hp, rfl⟩ := List.mem_map.mp hv
    obtain ⟨o, _, ho⟩ := List.mem_filterMap.mp hp
    exact hobs o p ho
  unfold fieldOf at h
  split at h
  · simp at h
  · simp only [Option.some.injEq] at h; rw [← h]; trivial
  · rename_i x _
    cases hx : ops.usable x with
    | none => simp [hx] at h
    | some y => simp only [hx, Option.map_some, Option.some.injEq] at h; rw [← h]; exact ht x y hx
  · split at h
    · simp at h
    · simp only [Option.some.injEq] at h; rw [← h]; exact hhist _

theorem mkRecord_members_ok (cfg : Config) (ops : FloatOps F) (txt : F → List Nat) (ht : TxtOk ops txt)
    (mult : Option Nat) (e : Entry F) (route : Option Key) (ms : List (Str × Metric F)) (extra : List Directive) :
    ∀ m ∈ (mkRecord cfg ops mult e route ms extra).members, MValOk txt m.2 := by
  intro m hmem
  simp only [mkRecord, List.mem_append, List.mem_map] at hmem
  rcases hmem with (⟨kv, _, rfl⟩ | hmem) | ⟨p, _, rfl⟩
  · trivial
  · unfold fieldsOf at hmem
    obtain ⟨p, _, hp⟩ := List.mem_filterMap.mp hmem
    cases hf : fieldOf ops mult p.2 with
    | none => simp [hf] at hp
    | some v =>
      simp only [hf, Option.map_some, Option.some.injEq] at hp
      rw [← hp]
      exact fieldOf_ok ops txt ht mult p.2 v hf
  · trivial

/-- **Stage 2, reader form.** Under the hypotheses of `emf_refines_spec_global_partial` and the dtoa law, the
single line the operational model writes reads back as the JSON tree of the declarative record. -/
theorem emf_refines_spec_global_read_partial (cfg : Config) (sw : Switches) (ops : FloatOps F) (txt : F → List Nat)
    (mult : Option Nat) (nowMs : Nat) (e : Entry F)
    (hns : cfg.namespaces ≠ []) (hm : multOk mult) (ht : TxtOk ops txt)
    (hsplit : noSplit cfg e = true) (hv : validate cfg sw e = []) :
    (runEmf cfg sw ops txt mult nowMs e).1 = .ok ∧
    readLine (runEmf cfg sw ops txt mult nowMs e).2 =
      some (recordJson txt cfg.namespaces.length nowMs (mkRecord cfg ops mult e none (metricItems e) cfg.extra)) := by
  have h := (emf_refines_spec_global_partial cfg sw ops txt mult nowMs e hns hm hsplit hv).2
  rw [h]
  exact ⟨rfl, readLine_print _ (WF_recordJson txt _ _ _ (mkRecord_members_ok cfg ops txt ht mult e _ _ _))⟩

end EmfRefine

#print axioms EmfRefine.emf_refines_spec_global_read_partial
