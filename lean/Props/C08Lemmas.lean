import Model.EmfSpec
/-!
The validation state machine under arbitrary switches. The switches only decide whether the name map is consulted;
the rest of the state (`Frame`) and the checks that read only it go the same way in every run. Hence a run that
skips all validations stays in lock-step with an error-free run under any switches (`run_sim`), and what the
latter accepts the former accepts (`validate_off_of_on`). `stepMetric` is split into its routing half, which
touches the frame, and its name-map half, which does not.
-/
namespace EmfSpec

variable {F : Type}

/-- the parts of the state that are independent of the name map -/
structure Frame where
  tsSeen : Bool
  dimsSet : Bool
  split : Bool
  unroutable : Bool
  keys : List Key
  deriving DecidableEq

def VState.frame (st : VState) : Frame := ⟨st.tsSeen, st.dimsSet, st.split, st.unroutable, st.keys⟩

@[simp] theorem err_frame (st : VState) (x : Err) : (st.err x).frame = st.frame := rfl
@[simp] theorem err_errs (st : VState) (x : Err) : (st.err x).errs = st.errs ++ [x] := rfl
@[simp] theorem err_vmap (st : VState) (x : Err) : (st.err x).vmap = st.vmap := rfl
@[simp] theorem err_keys (st : VState) (x : Err) : (st.err x).keys = st.keys := rfl
@[simp] theorem err_split (st : VState) (x : Err) : (st.err x).split = st.split := rfl
@[simp] theorem err_tsSeen (st : VState) (x : Err) : (st.err x).tsSeen = st.tsSeen := rfl
@[simp] theorem err_dimsSet (st : VState) (x : Err) : (st.err x).dimsSet = st.dimsSet := rfl
@[simp] theorem err_unroutable (st : VState) (x : Err) : (st.err x).unroutable = st.unroutable := rfl

theorem dimsStep_frame (sw : Switches) (st : VState) (d : Str) :
    (dimsStep sw st d).frame = st.frame ∧ st.errs <+: (dimsStep sw st d).errs := by
  unfold dimsStep
  split <;> try split
  all_goals exact ⟨rfl, by simp⟩

theorem foldl_dimsStep_frame (sw : Switches) (ds : List Str) (st : VState) :
    (ds.foldl (dimsStep sw) st).frame = st.frame ∧ st.errs <+: (ds.foldl (dimsStep sw) st).errs := by
  induction ds generalizing st with
  | nil => exact ⟨rfl, List.prefix_rfl⟩
  | cons d ds ih =>
    have h1 := dimsStep_frame sw st d
    have h2 := ih (dimsStep sw st d)
    exact ⟨h2.1.trans h1.1, h1.2.trans h2.2⟩

theorem stepString_frame (sw : Switches) (st : VState) (n : Str) :
    (stepString sw st n).frame = st.frame ∧ st.errs <+: (stepString sw st n).errs := by
  unfold stepString
  split <;> try split
  all_goals exact ⟨rfl, by simp⟩

/-- the routing part of `stepMetric`: the state after the per-metric-dimension check and the
insertion of the dimension set, and the index of the set -/
def routeStep (cfg : Config) (st : VState) (name : Str) (m : Metric F) : VState × Nat :=
  let isGlobal := cfg.allowIgnored || m.dims.isEmpty
  let st := if !isGlobal && !st.split then st.err (.perMetricDims name) else st
  let key := sortKey m.dims
  if isGlobal then (st, 0)
  else if key ∈ st.keys then (st, indexOfKey key st.keys + 1)
  else ({ st with keys := st.keys ++ [key] }, st.keys.length + 1)

/-- the name-map part of `stepMetric` -/
def mapStep (sw : Switches) (st : VState) (name : Str) (index : Nat) : VState :=
  if sw.skipUnique || st.unroutable then st else
  match st.vmap.get name with
  | none => { st with vmap := st.vmap.set name (.metric [index]) }
  | some .unfound => st.err (.metricInDimension name)
  | some (.metric idxs) =>
    if index ∈ idxs then st.err (.duplicate name)
    else { st with vmap := st.vmap.set name (.metric (index :: idxs)) }
  | some .string => st.err (.duplicate name)

theorem stepMetric_eq (cfg : Config) (sw : Switches) (st : VState) (name : Str) (m : Metric F) :
    stepMetric cfg sw st name m = mapStep sw (routeStep cfg st name m).1 name (routeStep cfg st name m).2 :=
  rfl

theorem mapStep_frame (sw : Switches) (st : VState) (n : Str) (i : Nat) :
    (mapStep sw st n i).frame = st.frame ∧ st.errs <+: (mapStep sw st n i).errs := by
  unfold mapStep
  split <;> try (split <;> try split)
  all_goals exact ⟨rfl, by simp⟩

theorem indexOfKey_snoc (k : Key) (ks : List Key) (h : k ∉ ks) : indexOfKey k (ks ++ [k]) = ks.length := by
  induction ks with
  | nil => simp [indexOfKey]
  | cons x xs ih =>
    rw [List.mem_cons, not_or] at h
    simp [indexOfKey, Ne.symm h.1, ih h.2]

/-- the index of the record a metric goes to (0 = no dimensions) -/
def idxOf (cfg : Config) (keys : List Key) (m : Metric F) : Nat :=
  match routeOf cfg m with
  | none => 0
  | some k => indexOfKey k keys + 1

/-- the dimension sets after a metric has been routed -/
def keysAfter (cfg : Config) (keys : List Key) (m : Metric F) : List Key :=
  match routeOf cfg m with
  | some k => if k ∈ keys then keys else keys ++ [k]
  | none => keys

theorem routeStep_eq (cfg : Config) (st : VState) (n : Str) (m : Metric F) :
    routeStep cfg st n m =
      ({ (if (routeOf cfg m).isSome && !st.split then st.err (.perMetricDims n) else st) with
          keys := keysAfter cfg st.keys m }, idxOf cfg (keysAfter cfg st.keys m) m) := by
  obtain ⟨_, _, _, sp, _, _, ks⟩ := st
  unfold routeStep keysAfter idxOf routeOf
  cases cfg.allowIgnored || m.dims.isEmpty <;> cases sp <;>
    by_cases h : sortKey m.dims ∈ ks <;> simp [h, VState.err, indexOfKey_snoc]

theorem routeStep_frame (cfg : Config) (st : VState) (n : Str) (m : Metric F) :
    (routeStep cfg st n m).1.frame = { st.frame with keys := keysAfter cfg st.keys m }
    ∧ st.errs <+: (routeStep cfg st n m).1.errs := by
  rw [routeStep_eq]
  split <;> exact ⟨rfl, by simp⟩

theorem routeStep_errs_nil (cfg : Config) (st : VState) (n : Str) (m : Metric F) :
    (routeStep cfg st n m).1.errs = [] ↔ st.errs = [] ∧ ((routeOf cfg m).isSome && !st.split) = false := by
  rw [routeStep_eq]
  split <;> simp [*]

theorem stepItem_errs (cfg : Config) (sw : Switches) (st : VState) (x : Item F) :
    st.errs <+: (stepItem cfg sw st x).errs := by
  cases x with
  | timestamp t => simp only [stepItem]; split <;> simp
  | allowSplit | otherCfg | allowUnroutable => exact List.prefix_rfl
  | entryDims sets =>
    simp only [stepItem]
    split; · simp
    split; · simp
    split; · simp
    split
    · exact (foldl_dimsStep_frame sw sets.flatten st).2
    · exact List.prefix_rfl
  | value name v =>
    simp only [stepItem]
    split; · simp
    split; · simp
    cases v with
    | str s => exact (stepString_frame sw st name).2
    | metric m => exact (routeStep_frame cfg st name m).2.trans (mapStep_frame sw _ name _).2
    | error => simp
    | nothing => exact List.prefix_rfl

theorem run_cons (cfg : Config) (sw : Switches) (st : VState) (x : Item F) (e : Entry F) :
    run cfg sw st (x :: e) = run cfg sw (stepItem cfg sw st x) e := rfl

theorem run_append (cfg : Config) (sw : Switches) (st : VState) (e e' : Entry F) :
    run cfg sw st (e ++ e') = run cfg sw (run cfg sw st e) e' := by
  simp [run, List.foldl_append]

theorem run_errs (cfg : Config) (sw : Switches) (st : VState) (e : Entry F) :
    st.errs <+: (run cfg sw st e).errs := by
  induction e generalizing st with
  | nil => exact List.prefix_rfl
  | cons x e ih => exact (stepItem_errs cfg sw st x).trans (ih _)

theorem errs_nil_of_run (cfg : Config) (sw : Switches) (st : VState) (e : Entry F)
    (h : (run cfg sw st e).errs = []) : st.errs = [] :=
  List.prefix_nil.mp (h ▸ run_errs cfg sw st e)

theorem errs_nil_of_step (cfg : Config) (sw : Switches) (st : VState) (x : Item F)
    (h : (stepItem cfg sw st x).errs = []) : st.errs = [] :=
  List.prefix_nil.mp (h ▸ stepItem_errs cfg sw st x)

theorem validate_value_error (cfg : Config) (sw : Switches) (e : Entry F) (h : noValueError e = false) :
    validate cfg sw e ≠ [] := by
  have key : ∀ (e : Entry F) (st : VState), noValueError e = false → (run cfg sw st e).errs ≠ [] := by
    intro e
    induction e with
    | nil => intro st h; simp [noValueError] at h
    | cons x e ih =>
      intro st h hnil
      rcases x with _|_|_|_|_|⟨n, _|_|_|_⟩
      case value.error =>
        have := errs_nil_of_run cfg sw _ e hnil
        simp only [stepItem] at this
        split at this
        · simp at this
        · split at this <;> simp at this
      all_goals exact ih _ h hnil
  exact fun hv => key e _ h (List.append_eq_nil_iff.mp hv).1

theorem step_sim (cfg : Config) (sw : Switches) (a b : VState) (x : Item F) (hf : a.frame = b.frame)
    (hb : b.errs = []) (ha : (stepItem cfg sw a x).errs = []) :
    (stepItem cfg allOff b x).errs = [] ∧ (stepItem cfg sw a x).frame = (stepItem cfg allOff b x).frame := by
  have ha0 := errs_nil_of_step cfg sw a x ha
  have hf' := hf
  simp only [VState.frame, Frame.mk.injEq] at hf'
  obtain ⟨hts, hds, hsp, hun, hk⟩ := hf'
  cases x with
  | timestamp t =>
    simp only [stepItem, hts] at ha ⊢
    cases h : b.tsSeen <;> simp_all [VState.frame]
  | allowSplit | otherCfg | allowUnroutable => simp_all [stepItem, VState.frame]
  | entryDims sets =>
    simp only [stepItem, ← hk, ← hds] at ha ⊢
    split at ha
    · simp at ha
    split at ha
    · simp at ha
    split at ha
    · simp at ha
    rename_i h1 h2 h3
    have := (foldl_dimsStep_frame sw sets.flatten a).1
    simp only [VState.frame, Frame.mk.injEq] at this
    simp only [h1, h2, h3, allOff, Bool.not_true, Bool.or_self, Bool.false_eq_true, ↓reduceIte, hb, true_and]
    split <;> simp [VState.frame, this, hts, hsp, hun, hk]
  | value name v =>
    simp only [stepItem] at ha ⊢
    split at ha
    · simp at ha
    split at ha
    · simp at ha
    rename_i h1 h2
    simp only [h1, h2, allOff, Bool.not_true, Bool.false_and, Bool.false_eq_true, ↓reduceIte]
    cases v with
    | str s => exact ⟨hb, (stepString_frame sw a name).1.trans hf⟩
    | metric m =>
      simp only [stepMetric_eq] at ha ⊢
      have hra : (routeStep cfg a name m).1.errs = [] :=
        List.prefix_nil.mp (by rw [← ha]; exact (mapStep_frame sw _ name _).2)
      have hb' : mapStep ⟨true, true, true⟩ (routeStep cfg b name m).1 name (routeStep cfg b name m).2
          = (routeStep cfg b name m).1 := rfl
      rw [hb', (mapStep_frame ..).1, (routeStep_frame ..).1, (routeStep_frame ..).1, hf, hk]
      exact ⟨(routeStep_errs_nil cfg b name m).mpr ⟨hb, hsp ▸ ((routeStep_errs_nil cfg a name m).mp hra).2⟩, rfl⟩
    | error => simp at ha
    | nothing => exact ⟨hb, hf⟩

theorem run_sim (cfg : Config) (sw : Switches) (e : Entry F) (a b : VState) (hf : a.frame = b.frame)
    (hb : b.errs = []) (ha : (run cfg sw a e).errs = []) :
    (run cfg allOff b e).errs = [] ∧ (run cfg sw a e).frame = (run cfg allOff b e).frame := by
  induction e generalizing a b with
  | nil => exact ⟨hb, hf⟩
  | cons x e ih =>
    obtain ⟨h1, h2⟩ := step_sim cfg sw a b x hf hb (errs_nil_of_run cfg sw _ e ha)
    exact ih _ _ h2 h1 ha

theorem validate_off_of_on (cfg : Config) (sw : Switches) (e : Entry F) (h : validate cfg sw e = []) :
    validate cfg allOff e = [] := by
  have := run_sim cfg sw e (initState cfg sw) (initState cfg allOff) rfl rfl (List.append_eq_nil_iff.mp h).1
  exact List.append_eq_nil_iff.mpr ⟨this.1, by simp [sweep, allOff]⟩

end EmfSpec
