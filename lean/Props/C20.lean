import Model.MetricsRs
import Model.MetricsRsUnits
import Generated.MetricsRs
import Props.C11Lemmas
/-!
# C20 — the metrics.rs bridge reports every counter increment and sample exactly once

Theorems about `MetricsRs.run` (model of `metrique-metricsrs`), for every list of atomic events — i.e. for every
interleaving of any number of updater threads with the steps of any number of readouts — and every start state.
-/
namespace MetricsRs

theorem FMap.get_filter_ne {α : Type} [DecidableEq α] (m : FMap α) (k k' : α) :
    FMap.get (m.filter (fun p => decide (p.1 ≠ k))) k' = if k' = k then 0 else FMap.get m k' := by
  induction m with
  | nil => simp [FMap.get]
  | cons p r ih =>
    obtain ⟨a, v⟩ := p
    by_cases h : a = k
    · subst h
      simp only [List.filter_cons, ne_eq, not_true_eq_false, decide_false, Bool.false_eq_true, ↓reduceIte, ih]
      by_cases h2 : k' = a
      · simp [h2]
      · have : ¬ a = k' := fun e => h2 e.symm
        simp [FMap.get, h2, this]
    · simp only [List.filter_cons, ne_eq, h, not_false_eq_true, decide_true, ↓reduceIte, FMap.get, ih]
      by_cases h2 : k' = k
      · subst h2; simp [h]
      · simp [h2]

theorem FMap.get_put {α : Type} [DecidableEq α] (m : FMap α) (k k' : α) (v : Nat) :
    FMap.get (FMap.put m k v) k' = if k' = k then v else FMap.get m k' := by
  unfold FMap.put
  by_cases hv : v = 0
  · simp only [hv, ↓reduceIte, FMap.get_filter_ne]
  · simp only [hv, ↓reduceIte, FMap.get, FMap.get_filter_ne]
    by_cases h : k' = k
    · simp [h]
    · have : ¬ k = k' := fun e => h e.symm
      simp [h, this]

/-! ## One atomic cell under `fetch_add` / `swap(0)` — the schedule-independent core

A cell sees, in some interleaved order, `add b` steps (a `fetch_add` of weight `w b`; `b` is the increment itself for a
counter, the recorded sample for a histogram bucket) and `swap` steps (a readout taking the value and leaving 0). -/

inductive CellEv (β : Type) where
  | add (b : β)
  | swap

/-- final cell value and the values handed to the successive swaps -/
def cellRun {β : Type} (w : β → Nat) (c : Nat) : List (CellEv β) → Nat × List Nat
  | [] => (c, [])
  | .add b :: es => cellRun w ((c + w b) % two64) es
  | .swap :: es => ((cellRun w 0 es).1, c :: (cellRun w 0 es).2)

/-- ghost bookkeeping: which additions each swap took (`.1`, one batch per swap, in order) and which are still in the
cell (`.2`) -/
def cellGhost {β : Type} (pending : List β) : List (CellEv β) → List (List β) × List β
  | [] => ([], pending)
  | .add b :: es => cellGhost (pending ++ [b]) es
  | .swap :: es => (pending :: (cellGhost [] es).1, (cellGhost [] es).2)

def cellAdds {β : Type} : List (CellEv β) → List β
  | [] => []
  | .add b :: es => b :: cellAdds es
  | .swap :: es => cellAdds es

def wsum {β : Type} (w : β → Nat) (l : List β) : Nat := (l.map w).sum

theorem wsum_append {β : Type} (w : β → Nat) (a b : List β) : wsum w (a ++ b) = wsum w a + wsum w b := by
  simp [wsum]

theorem cell_exactly_once {β : Type} (w : β → Nat) (es : List (CellEv β)) (pending : List β) (c : Nat)
    (hc : c = wsum w pending % two64) :
    (cellGhost pending es).1.flatten ++ (cellGhost pending es).2 = pending ++ cellAdds es ∧
    (cellRun w c es).2 = (cellGhost pending es).1.map (fun b => wsum w b % two64) ∧
    (cellRun w c es).1 = wsum w (cellGhost pending es).2 % two64 := by
  induction es generalizing pending c with
  | nil => simp [cellGhost, cellRun, cellAdds, hc]
  | cons e es ih =>
    cases e with
    | add b =>
      have hc' : (c + w b) % two64 = wsum w (pending ++ [b]) % two64 := by
        rw [wsum_append, hc]; simp [wsum, Nat.add_mod]
      have := ih (pending ++ [b]) _ hc'
      simp only [cellGhost, cellRun, cellAdds]
      refine ⟨?_, this.2.1, this.2.2⟩
      rw [this.1]; simp
    | swap =>
      have h0 : (0 : Nat) = wsum w ([] : List β) % two64 := by simp [wsum]
      have := ih [] 0 h0
      simp only [cellGhost, cellRun, cellAdds, List.flatten_cons, List.map_cons, List.append_assoc]
      refine ⟨?_, ?_, this.2.2⟩
      · rw [this.1]; simp
      · rw [this.2.1, hc]

/-- `q` is the number of times the cell wrapped. -/
theorem cell_conservation_wraps {β : Type} (w : β → Nat) (es : List (CellEv β)) (c : Nat) :
    ∃ q, (cellRun w c es).2.sum + (cellRun w c es).1 + q * two64 = c + wsum w (cellAdds es) := by
  induction es generalizing c with
  | nil => exact ⟨0, by simp [cellRun, cellAdds, wsum]⟩
  | cons e es ih =>
    cases e with
    | add b =>
      obtain ⟨q, hq⟩ := ih ((c + w b) % two64)
      refine ⟨q + (c + w b) / two64, ?_⟩
      have := Nat.div_add_mod (c + w b) two64
      simp only [cellRun, cellAdds, wsum, List.map_cons, List.sum_cons, Nat.add_mul] at hq ⊢
      rw [Nat.mul_comm] at this
      omega
    | swap =>
      obtain ⟨q, hq⟩ := ih 0
      exact ⟨q, by simp only [cellRun, cellAdds, List.sum_cons]; omega⟩

theorem eq_of_wraps {a b q : Nat} (hq : a + q * two64 = b) (h : b < two64) : a = b := by
  rcases Nat.eq_zero_or_pos q with rfl | hq0
  · rwa [Nat.zero_mul] at hq
  · have := Nat.le_mul_of_pos_left two64 hq0
    omega

theorem run_cons (s : State) (e : Ev) (es : List Ev) :
    run s (e :: es) = ((run (step s e).1 es).1, (step s e).2 ++ (run (step s e).1 es).2) := rfl

theorem run_append (s : State) (a b : List Ev) :
    run s (a ++ b) = ((run (run s a).1 b).1, (run s a).2 ++ (run (run s a).1 b).2) := by
  induction a generalizing s with
  | nil => simp [run]
  | cons e es ih => simp only [List.cons_append, run_cons, ih, List.append_assoc]

def cellStep {β : Type} (w : β → Nat) (c : Nat) : Option (CellEv β) → Nat × List Nat
  | none => (c, [])
  | some (.add b) => ((c + w b) % two64, [])
  | some .swap => (0, [c])

/-- If every step of the bridge acts on the cell read by `cell` as the cell step of its projection, and `out` picks
that cell's observations, then a run of the bridge acts on the cell as the run of the projected steps. -/
theorem run_cell {β : Type} (w : β → Nat) (cell : State → Nat) (out : List Obs → List Nat)
    (proj : Ev → Option (CellEv β)) (hnil : out [] = []) (happ : ∀ a b, out (a ++ b) = out a ++ out b)
    (hstep : ∀ s e, cell (step s e).1 = (cellStep w (cell s) (proj e)).1 ∧
      out (step s e).2 = (cellStep w (cell s) (proj e)).2)
    (s : State) (evs : List Ev) :
    cell (run s evs).1 = (cellRun w (cell s) (evs.filterMap proj)).1 ∧
    out (run s evs).2 = (cellRun w (cell s) (evs.filterMap proj)).2 := by
  induction evs generalizing s with
  | nil => exact ⟨rfl, hnil⟩
  | cons e es ih =>
    rw [run_cons, happ, List.filterMap_cons, (ih _).1, (ih _).2, (hstep s e).1, (hstep s e).2]
    rcases proj e with _ | _ | _ <;> exact ⟨rfl, rfl⟩

/-- the steps that touch counter `k` -/
def projC (k : Key) : Ev → Option (CellEv Nat)
  | .inc k' n => if k' = k then some (.add n) else none
  | .swapC k' => if k' = k then some .swap else none
  | _ => none

/-- the deltas reported for counter `k`, in order -/
def deltasC (k : Key) : List Obs → List Nat
  | [] => []
  | .counter k' d :: os => if k' = k then d :: deltasC k os else deltasC k os
  | _ :: os => deltasC k os

/-- the steps that touch bucket `i` of histogram `k`; an `add` carries the recorded sample -/
def projH (k : Key) (i : Nat) : Ev → Option (CellEv Nat)
  | .hrec k' v => if k' = k ∧ valueToIndex histGrouping histMaxPower v = some i then some (.add v) else none
  | .hswap k' i' => if k' = k ∧ i' = i then some .swap else none
  | _ => none

/-- the counts swapped out of bucket `i` of histogram `k`, in order -/
def countsH (k : Key) (i : Nat) : List Obs → List Nat
  | [] => []
  | .bucket k' i' c :: os => if k' = k ∧ i' = i then c :: countsH k i os else countsH k i os
  | _ :: os => countsH k i os

theorem deltasC_append (k : Key) (a b : List Obs) : deltasC k (a ++ b) = deltasC k a ++ deltasC k b := by
  induction a with
  | nil => rfl
  | cons o os ih => cases o <;> simp only [List.cons_append, deltasC, ih] <;> split <;> rfl

theorem countsH_append (k : Key) (i : Nat) (a b : List Obs) :
    countsH k i (a ++ b) = countsH k i a ++ countsH k i b := by
  induction a with
  | nil => rfl
  | cons o os ih => cases o <;> simp only [List.cons_append, countsH, ih] <;> split <;> rfl

theorem step_counter_cell (k : Key) (s : State) (e : Ev) :
    (step s e).1.ctrOf k = (cellStep id (s.ctrOf k) (projC k e)).1 ∧
    deltasC k (step s e).2 = (cellStep id (s.ctrOf k) (projC k e)).2 := by
  cases e with
  | inc k' _ | swapC k' =>
    by_cases h : k' = k <;> simp [step, projC, State.ctrOf, FMap.get_put, deltasC, cellStep, h, eq_comm (a := k)]
  | hrec k' v => simp only [step]; split <;> exact ⟨rfl, rfl⟩
  | _ => exact ⟨rfl, rfl⟩

theorem step_hist_cell (k : Key) (i : Nat) (s : State) (e : Ev) :
    (step s e).1.histOf k i = (cellStep (fun _ => 1) (s.histOf k i) (projH k i e)).1 ∧
    countsH k i (step s e).2 = (cellStep (fun _ => 1) (s.histOf k i) (projH k i e)).2 := by
  cases e with
  | hrec k' v =>
    cases hj : valueToIndex histGrouping histMaxPower v with
    | none => simp [step, projH, hj, cellStep, countsH]
    | some j =>
      by_cases h : k' = k ∧ j = i <;>
        simp [step, projH, hj, State.histOf, FMap.get_put, countsH, cellStep, h, eq_comm (a := k), eq_comm (a := i)]
  | hswap k' i' =>
    by_cases h : k' = k ∧ i' = i <;>
      simp [step, projH, State.histOf, FMap.get_put, countsH, cellStep, h, eq_comm (a := k), eq_comm (a := i)]
  | _ => exact ⟨rfl, rfl⟩

theorem run_counter_cell (s : State) (evs : List Ev) (k : Key) :
    (run s evs).1.ctrOf k = (cellRun id (s.ctrOf k) (evs.filterMap (projC k))).1 ∧
    deltasC k (run s evs).2 = (cellRun id (s.ctrOf k) (evs.filterMap (projC k))).2 :=
  run_cell id (·.ctrOf k) (deltasC k) (projC k) rfl (deltasC_append k) (step_counter_cell k) s evs

theorem run_hist_cell (s : State) (evs : List Ev) (k : Key) (i : Nat) :
    (run s evs).1.histOf k i = (cellRun (fun _ => 1) (s.histOf k i) (evs.filterMap (projH k i))).1 ∧
    countsH k i (run s evs).2 = (cellRun (fun _ => 1) (s.histOf k i) (evs.filterMap (projH k i))).2 :=
  run_cell (fun _ => 1) (·.histOf k i) (countsH k i) (projH k i) rfl (countsH_append k i) (step_hist_cell k i) s evs

/-- the increments applied to counter `k`, in order -/
def incsOf (k : Key) : List Ev → List Nat
  | [] => []
  | .inc k' n :: es => if k' = k then n :: incsOf k es else incsOf k es
  | _ :: es => incsOf k es

theorem incsOf_eq (k : Key) (evs : List Ev) : cellAdds (evs.filterMap (projC k)) = incsOf k evs := by
  induction evs with
  | nil => rfl
  | cons e es ih =>
    cases e with
    | inc k' _ | swapC k' => by_cases h : k' = k <;> simp [projC, incsOf, cellAdds, h, ih]
    | _ => exact ih

/-- **C20 (counters, exactly once).** For every interleaving `evs` of increments and readout swaps (and anything
else), from any state in which counter `k` holds the increments `pending`: the swaps of `k` take batches
`g.1` of increments, `g.2` is left in the cell, and
* the batches and the rest are, in order, exactly `pending` followed by the increments of `k` in `evs` — every
  increment is in exactly one batch (one readout) or still in the cell, none is lost or taken twice;
* the delta reported by the j-th swap is the sum of the j-th batch (mod 2^64, the width of the cell);
* the residual cell value is the sum of what is left. -/
theorem c20_counter_exactly_once (s : State) (evs : List Ev) (k : Key) (pending : List Nat)
    (h : s.ctrOf k = wsum id pending % two64) :
    (cellGhost pending (evs.filterMap (projC k))).1.flatten ++ (cellGhost pending (evs.filterMap (projC k))).2
      = pending ++ incsOf k evs ∧
    deltasC k (run s evs).2 = (cellGhost pending (evs.filterMap (projC k))).1.map (fun b => wsum id b % two64) ∧
    (run s evs).1.ctrOf k = wsum id (cellGhost pending (evs.filterMap (projC k))).2 % two64 := by
  have hc := cell_exactly_once id (evs.filterMap (projC k)) pending (s.ctrOf k) h
  have hr := run_counter_cell s evs k
  rw [incsOf_eq] at hc
  exact ⟨hc.1, hr.2.trans hc.2.1, hr.1.trans hc.2.2⟩

theorem counter_wraps (s : State) (evs : List Ev) (k : Key) :
    ∃ q, (deltasC k (run s evs).2).sum + (run s evs).1.ctrOf k + q * two64 = s.ctrOf k + (incsOf k evs).sum := by
  obtain ⟨q, hq⟩ := cell_conservation_wraps id (evs.filterMap (projC k)) (s.ctrOf k)
  rw [incsOf_eq, ← (run_counter_cell s evs k).1, ← (run_counter_cell s evs k).2] at hq
  exact ⟨q, by simpa [wsum] using hq⟩

/-- **C20 (counters, conservation).** For every interleaving: reported deltas + residual = initial value + total
incremented, modulo 2^64 … -/
theorem c20_counter_conservation_mod (s : State) (evs : List Ev) (k : Key) :
    ((deltasC k (run s evs).2).sum + (run s evs).1.ctrOf k) % two64 = (s.ctrOf k + (incsOf k evs).sum) % two64 := by
  obtain ⟨q, hq⟩ := counter_wraps s evs k
  rw [← hq, Nat.add_mul_mod_self_right]

/-- … and exactly, as long as the total stays below 2^64: the reported deltas sum to the total incremented. -/
theorem c20_counter_conservation (s : State) (evs : List Ev) (k : Key)
    (h : s.ctrOf k + (incsOf k evs).sum < two64) :
    (deltasC k (run s evs).2).sum + (run s evs).1.ctrOf k = s.ctrOf k + (incsOf k evs).sum := by
  obtain ⟨q, hq⟩ := counter_wraps s evs k
  exact eq_of_wraps hq h

/-- the samples recorded into bucket `i` of histogram `k`, in order -/
def samplesOf (k : Key) (i : Nat) : List Ev → List Nat
  | [] => []
  | .hrec k' v :: es =>
    if k' = k ∧ valueToIndex histGrouping histMaxPower v = some i then v :: samplesOf k i es else samplesOf k i es
  | _ :: es => samplesOf k i es

theorem samplesOf_eq (k : Key) (i : Nat) (evs : List Ev) :
    cellAdds (evs.filterMap (projH k i)) = samplesOf k i evs := by
  induction evs with
  | nil => rfl
  | cons e es ih =>
    cases e with
    | hrec k' v =>
      by_cases h : k' = k ∧ valueToIndex histGrouping histMaxPower v = some i <;>
        simp [projH, samplesOf, cellAdds, h, ih]
    | hswap k' i' => by_cases h : k' = k ∧ i' = i <;> simp [projH, samplesOf, cellAdds, h, ih]
    | _ => exact ih

theorem wsum_one {β : Type} (l : List β) : wsum (fun _ => 1) l = l.length := by
  induction l with
  | nil => rfl
  | cons a l ih => simp only [wsum, List.map_cons, List.sum_cons, List.length_cons] at ih ⊢; omega

/-- **C20 (histograms, exactly once).** Per histogram `k` and bucket `i`, for every interleaving of `record`s with the
per-bucket swaps of any number of `drain`s: the swaps of the bucket take batches of samples, and batches + rest are,
in order, exactly the samples recorded into the bucket — every sample is counted by exactly one drain or is still in
the bucket; each swap hands out the size of its batch (mod 2^64). -/
theorem c20_hist_exactly_once (s : State) (evs : List Ev) (k : Key) (i : Nat) (pending : List Nat)
    (h : s.histOf k i = pending.length % two64) :
    (cellGhost pending (evs.filterMap (projH k i))).1.flatten ++ (cellGhost pending (evs.filterMap (projH k i))).2
      = pending ++ samplesOf k i evs ∧
    countsH k i (run s evs).2 = (cellGhost pending (evs.filterMap (projH k i))).1.map (fun b => b.length % two64) ∧
    (run s evs).1.histOf k i = (cellGhost pending (evs.filterMap (projH k i))).2.length % two64 := by
  have hc := cell_exactly_once (fun _ => 1) (evs.filterMap (projH k i)) pending (s.histOf k i)
    (by rw [wsum_one]; exact h)
  have hr := run_hist_cell s evs k i
  rw [samplesOf_eq] at hc
  simp only [wsum_one] at hc
  exact ⟨hc.1, hr.2.trans hc.2.1, hr.1.trans hc.2.2⟩

/-- **C20 (histograms, conservation).** Per bucket, for every interleaving: counts handed to the drains + residual =
initial count + number of samples recorded into the bucket (below 2^64). -/
theorem c20_hist_conservation (s : State) (evs : List Ev) (k : Key) (i : Nat)
    (h : s.histOf k i + (samplesOf k i evs).length < two64) :
    (countsH k i (run s evs).2).sum + (run s evs).1.histOf k i = s.histOf k i + (samplesOf k i evs).length := by
  obtain ⟨q, hq⟩ := cell_conservation_wraps (fun _ => 1) (evs.filterMap (projH k i)) (s.histOf k i)
  rw [samplesOf_eq, wsum_one, ← (run_hist_cell s evs k i).1, ← (run_hist_cell s evs k i).2] at hq
  exact eq_of_wraps hq h

theorem samplesOf_index (k : Key) (i : Nat) (evs : List Ev) :
    ∀ v ∈ samplesOf k i evs, valueToIndex histGrouping histMaxPower v = some i := by
  induction evs with
  | nil => simp [samplesOf]
  | cons e es ih =>
    cases e <;> simp only [samplesOf] <;> try exact ih
    split
    · exact List.forall_mem_cons.2 ⟨(‹_ ∧ _›).2, ih⟩
    · exact ih

/-- the value of the last `set` of gauge `k` in `evs`, `cur` if there is none -/
def lastSet (k : Key) (cur : Nat) : List Ev → Nat
  | [] => cur
  | .gset k' b :: es => lastSet k (if k' = k then b else cur) es
  | _ :: es => lastSet k cur es

theorem lastSet_append (k : Key) (cur : Nat) (a b : List Ev) :
    lastSet k cur (a ++ b) = lastSet k (lastSet k cur a) b := by
  induction a generalizing cur with
  | nil => rfl
  | cons e es ih => cases e <;> exact ih _

theorem lastSet_of_no_set (k : Key) (cur : Nat) (c : List Ev) (hc : ∀ b, Ev.gset k b ∉ c) : lastSet k cur c = cur := by
  induction c with
  | nil => rfl
  | cons e es ih =>
    have hes := ih fun b h => hc b (List.mem_cons_of_mem _ h)
    cases e with
    | gset k' b =>
      have : ¬ k' = k := fun h => hc b (h ▸ List.mem_cons_self ..)
      simp only [lastSet, this, ↓reduceIte, hes]
    | _ => exact hes

theorem step_gaugeOf (s : State) (e : Ev) (k : Key) : (step s e).1.gaugeOf k = lastSet k (s.gaugeOf k) [e] := by
  cases e <;> simp only [step, State.gaugeOf, lastSet, FMap.get_put, eq_comm (a := k)]
  split <;> rfl

theorem run_gaugeOf (s : State) (evs : List Ev) (k : Key) :
    (run s evs).1.gaugeOf k = lastSet k (s.gaugeOf k) evs := by
  induction evs generalizing s with
  | nil => rfl
  | cons e es ih => rw [run_cons, ih, step_gaugeOf]; exact (lastSet_append k _ [e] es).symm

/-- `lastSet` is what its name says: after `… gset k b` followed by steps that do not set `k`, it is `b`. -/
theorem lastSet_spec (k : Key) (cur b : Nat) (a c : List Ev) (hc : ∀ b', Ev.gset k b' ∉ c) :
    lastSet k cur (a ++ Ev.gset k b :: c) = b := by
  rw [lastSet_append]
  simp only [lastSet, ↓reduceIte]
  exact lastSet_of_no_set k b c hc

/-- **C20 (gauges).** In every interleaving, a gauge load reports the value of the last `set` of that gauge that
precedes it (the initial value if there is none), and leaves the gauge unchanged. -/
theorem c20_gauge_last (s : State) (pre post : List Ev) (k : Key) :
    (run s (pre ++ Ev.gload k :: post)).2 =
      (run s pre).2 ++ Obs.gauge k (lastSet k (s.gaugeOf k) pre) :: (run (run s pre).1 post).2 ∧
    (run s (pre ++ Ev.gload k :: post)).1 = (run (run s pre).1 post).1 := by
  rw [run_append, run_cons]
  simp [step, run_gaugeOf]

/-- the unit of the last `describe` of name `nm` in `evs`, `cur` if there is none -/
def lastDescribe (nm : Nat) (cur : Nat) : List Ev → Nat
  | [] => cur
  | .describe nm' u :: es => lastDescribe nm (if nm' = nm then u else cur) es
  | _ :: es => lastDescribe nm cur es

theorem lastDescribe_append (nm cur : Nat) (a b : List Ev) :
    lastDescribe nm cur (a ++ b) = lastDescribe nm (lastDescribe nm cur a) b := by
  induction a generalizing cur with
  | nil => rfl
  | cons e es ih => cases e <;> exact ih _

theorem lastDescribe_of_no_describe (nm cur : Nat) (c : List Ev) (hc : ∀ u, Ev.describe nm u ∉ c) :
    lastDescribe nm cur c = cur := by
  induction c with
  | nil => rfl
  | cons e es ih =>
    have hes := ih fun u h => hc u (List.mem_cons_of_mem _ h)
    cases e with
    | describe nm' u =>
      have : ¬ nm' = nm := fun h => hc u (h ▸ List.mem_cons_self ..)
      simp only [lastDescribe, this, ↓reduceIte, hes]
    | _ => exact hes

theorem lastDescribe_spec (nm cur u : Nat) (a c : List Ev) (hc : ∀ u', Ev.describe nm u' ∉ c) :
    lastDescribe nm cur (a ++ Ev.describe nm u :: c) = u := by
  rw [lastDescribe_append]
  simp only [lastDescribe, ↓reduceIte]
  exact lastDescribe_of_no_describe nm u c hc

theorem step_unitOf (s : State) (e : Ev) (nm : Nat) :
    (step s e).1.unitOf nm = lastDescribe nm (s.unitOf nm) [e] := by
  cases e <;> simp only [step, State.unitOf, lastDescribe, FMap.get_put, eq_comm (a := nm)]
  split <;> rfl

theorem run_unitOf (s : State) (evs : List Ev) (nm : Nat) :
    (run s evs).1.unitOf nm = lastDescribe nm (s.unitOf nm) evs := by
  induction evs generalizing s with
  | nil => rfl
  | cons e es ih => rw [run_cons, ih, step_unitOf]; exact (lastDescribe_append nm _ [e] es).symm

def Ev.isDescribe : Ev → Bool
  | .describe _ _ => true
  | _ => false

/-- **C20 (describe order).** The unit a readout sees for a name is the unit of the last `describe_*` of that name
before the readout reads the unit map — whatever else happened in between: registrations (before or after the
describe), updates and readout steps do not matter. -/
theorem c20_describe_order (s : State) (evs : List Ev) (nm : Nat) :
    (run s evs).1.unitOf nm = lastDescribe nm (s.unitOf nm) (evs.filter Ev.isDescribe) := by
  rw [run_unitOf]
  generalize s.unitOf nm = cur
  induction evs generalizing cur with
  | nil => rfl
  | cons e es ih => cases e <;> exact ih _

def counterItem (ez : Bool) (units : Nat → Nat) : Obs → Option Item
  | .counter k d =>
    if ez || d != 0 then some { name := k.name, dims := k.labels, unit := units k.name, obs := [.unsigned d] } else none
  | _ => none

theorem counterItems_eq (ez : Bool) (units : Nat → Nat) (obs : List Obs) :
    counterItems ez units obs = obs.filterMap (counterItem ez units) := by
  induction obs with
  | nil => rfl
  | cons o os ih => cases o <;> simp only [counterItems, List.filterMap_cons, counterItem, ih] <;> split <;> rfl

theorem mem_counterItems (ez : Bool) (units : Nat → Nat) (obs : List Obs) (it : Item) :
    it ∈ counterItems ez units obs ↔
      ∃ k d, Obs.counter k d ∈ obs ∧ (ez = true ∨ d ≠ 0) ∧
        it = { name := k.name, dims := k.labels, unit := units k.name, obs := [.unsigned d] } := by
  rw [counterItems_eq, List.mem_filterMap]
  constructor
  · rintro ⟨o, ho, h⟩
    cases o <;> simp [counterItem] at h
    exact ⟨_, _, ho, h.1, h.2.symm⟩
  · rintro ⟨k, d, ho, hz, rfl⟩
    exact ⟨_, ho, by rw [counterItem, if_pos (by simpa using hz)]⟩

def gaugeItem (units : Nat → Nat) : Obs → Option Item
  | .gauge k b => some { name := k.name, dims := k.labels, unit := units k.name, obs := [.floating b] }
  | _ => none

theorem gaugeItems_eq (units : Nat → Nat) (obs : List Obs) : gaugeItems units obs = obs.filterMap (gaugeItem units) := by
  induction obs with
  | nil => rfl
  | cons o os ih => cases o <;> simp only [gaugeItems, List.filterMap_cons, gaugeItem, ih]

theorem mem_gaugeItems (units : Nat → Nat) (obs : List Obs) (it : Item) :
    it ∈ gaugeItems units obs ↔
      ∃ k b, Obs.gauge k b ∈ obs ∧
        it = { name := k.name, dims := k.labels, unit := units k.name, obs := [.floating b] } := by
  rw [gaugeItems_eq, List.mem_filterMap]
  constructor
  · rintro ⟨o, ho, h⟩
    cases o <;> simp [gaugeItem] at h
    exact ⟨_, _, ho, h.symm⟩
  · rintro ⟨k, b, ho, rfl⟩
    exact ⟨_, ho, rfl⟩

def bucketOV (k : Key) : Obs → Option OV
  | .bucket k' i c => if k' = k ∧ c > 0 then some (.repeated (bucketValue i) (c % two32)) else none
  | _ => none

theorem bucketsOf_eq (k : Key) (obs : List Obs) : bucketsOf k obs = obs.filterMap (bucketOV k) := by
  induction obs with
  | nil => rfl
  | cons o os ih => cases o <;> simp only [bucketsOf, List.filterMap_cons, bucketOV, ih] <;> split <;> rfl

theorem mem_bucketsOf (k : Key) (obs : List Obs) (ov : OV) :
    ov ∈ bucketsOf k obs ↔
      ∃ i c, Obs.bucket k i c ∈ obs ∧ 0 < c ∧ ov = .repeated (bucketValue i) (c % two32) := by
  rw [bucketsOf_eq, List.mem_filterMap]
  constructor
  · rintro ⟨o, ho, h⟩
    cases o <;> simp [bucketOV] at h
    obtain ⟨⟨rfl, hc⟩, rfl⟩ := h
    exact ⟨_, _, ho, hc, rfl⟩
  · rintro ⟨i, c, ho, hc, rfl⟩
    exact ⟨_, ho, by rw [bucketOV, if_pos ⟨rfl, hc⟩]⟩

/-- **C20 (entry shape).** The entry written for a readout that observed `obs` in (final) state `s`: a timestamp and
`AllowSplitEntries`; its counter values are those of the reported non-zero (or, with `emit_zero_counters`, any) deltas, its
gauge values those of the loaded gauges, its histogram values those of the registered histograms (stated as membership;
`counterItems_eq`, `gaugeItems_eq`, `bucketsOf_eq` give the lists with multiplicity and order) — each under the key's registered name,
with the key's labels as dimensions and the unit described for that name; a histogram's observations are exactly
the non-empty buckets swapped out for it, as (bucket value, count as u32). -/
theorem c20_entry_shape (s : State) (obs : List Obs) :
    (buildEntry s obs).hasTimestamp = true ∧ (buildEntry s obs).allowSplit = true ∧
    (∀ it, it ∈ (buildEntry s obs).counters ↔
      ∃ k d, Obs.counter k d ∈ obs ∧ (s.emitZero = true ∨ d ≠ 0) ∧
        it = { name := k.name, dims := k.labels, unit := s.unitOf k.name, obs := [.unsigned d] }) ∧
    (∀ it, it ∈ (buildEntry s obs).gauges ↔
      ∃ k b, Obs.gauge k b ∈ obs ∧
        it = { name := k.name, dims := k.labels, unit := s.unitOf k.name, obs := [.floating b] }) ∧
    (buildEntry s obs).hists =
      s.regH.map (fun k => { name := k.name, dims := k.labels, unit := s.unitOf k.name, obs := bucketsOf k obs }) ∧
    (∀ k ov, ov ∈ bucketsOf k obs ↔
      ∃ i c, Obs.bucket k i c ∈ obs ∧ 0 < c ∧ ov = .repeated (bucketValue i) (c % two32)) :=
  ⟨rfl, rfl, mem_counterItems _ _ _, mem_gaugeItems _ _, rfl, fun k ov => mem_bucketsOf k obs ov⟩

/-- the model's histogram layout is the one configured in `Histogram::default_configuration` (T-gen) -/
theorem c20_hist_config_matches_source :
    Generated.MetricsRs.histGrouping = histGrouping ∧ Generated.MetricsRs.histMaxPower = histMaxPower := by
  decide

/-- **C20 (described unit).** `metrics_024_unit_to_metrique_unit` (as regenerated from `unit.rs`) maps every
metrics.rs unit, exactly once, to a metrique unit that denotes the same physical quantity (`MUnit.denote` /
`QUnit.denote` are written by hand from the two crates' documentation); no unit maps to `Unit::None`. -/
theorem c20_unit_table_preserves_quantity (u : MUnit) :
    (Generated.MetricsRs.unitTable.lookup u).bind QUnit.denote = some u.denote ∧
      (Generated.MetricsRs.unitTable.filter (fun p => p.1 == u)).length = 1 := by
  cases u <;> decide +kernel

theorem c20_unit_none_is_none : Generated.MetricsRs.unitNone = QUnit.None := by decide

/-! The layout functions of `Model/MetricsRs.lean` are those of `Histogram.Config` with the two powers passed as
arguments, so the layout arithmetic of `Props/C11Lemmas.lean` at `cfg4 32` applies to the bridge's histograms. -/

open Histogram.Config in
theorem valueToIndex_eq (g n v : Nat) : valueToIndex g n v = Histogram.Config.valueToIndex ⟨g, n⟩ v := by
  simp only [valueToIndex, Histogram.Config.valueToIndex, cutoffValue, cutoffPower, Histogram.Config.max,
    lowerBinCount, upperBinDivisions, Nat.shiftRight_eq_div_pow]

theorem lowerBound_eq (g n i : Nat) : lowerBound g i = Histogram.Config.lowerBound ⟨g, n⟩ i := by
  simp only [lowerBound, Histogram.Config.lowerBound, Nat.shiftRight_eq_div_pow]

open Histogram.Config in
theorem upperBound_eq (g n i : Nat) : upperBound g n i = Histogram.Config.upperBound ⟨g, n⟩ i := by
  simp only [upperBound, Histogram.Config.upperBound, totalBuckets, cutoffValue, cutoffPower, Histogram.Config.max,
    lowerBinCount, upperBinCount, upperBinDivisions, Nat.shiftRight_eq_div_pow]
  rfl

/-- the midpoint of a bucket that is a single value, or at most 1/16 of its lower bound wide, is within 1/32 of every
value of the bucket -/
theorem midpoint_error (lo up v : Nat) (hlo : lo ≤ v) (hup : v ≤ up) (h : up = lo ∨ 16 * (up + 1 - lo) ≤ lo) :
    lo ≤ midpoint lo up ∧ midpoint lo up ≤ up ∧ 32 * (midpoint lo up - v) ≤ v ∧ 32 * (v - midpoint lo up) ≤ v := by
  obtain ⟨d, rfl⟩ : ∃ d, up = lo + d := ⟨up - lo, by omega⟩
  simp only [midpoint, Nat.add_sub_cancel_left]
  omega

/-- **C20 (histograms, value error).** Every `u32` sample `v` is recorded into a bucket `i` of the (4, 32) layout
(so `record` never fails and never indexes out of the 464 buckets) whose bounds contain `v`; the value reported for
the bucket (the midpoint, as `u32`) lies inside the bucket and differs from `v` by at most `v/32` — half of the
documented 6.25 % bucket error. -/
theorem c20_hist_value_error (v : Nat) (hv : v < two32) :
    ∃ i, valueToIndex histGrouping histMaxPower v = some i ∧ i < nBuckets ∧
      lowerBound histGrouping i ≤ v ∧ v ≤ upperBound histGrouping histMaxPower i ∧
      lowerBound histGrouping i ≤ bucketValue i ∧ bucketValue i ≤ upperBound histGrouping histMaxPower i ∧
      32 * (bucketValue i - v) ≤ v ∧ 32 * (v - bucketValue i) ≤ v := by
  obtain ⟨i, hi, hidx, hlo, hup, hw, hbig⟩ := Histogram.bucket_of 32 v (by omega) hv
  have hmax : (Histogram.cfg4 32).upperBound i < two32 :=
    Nat.lt_of_le_pred (by decide) (Histogram.upperBound_le_max 32 i (by omega) hi)
  have hW : (Histogram.cfg4 32).upperBound i = (Histogram.cfg4 32).lowerBound i ∨
      16 * ((Histogram.cfg4 32).upperBound i + 1 - (Histogram.cfg4 32).lowerBound i) ≤
        (Histogram.cfg4 32).lowerBound i := by
    rw [hw]
    by_cases h32 : v < 32
    · rw [Histogram.log2_sub_four_of_lt h32] at hw; omega
    · exact .inr (hbig (by omega)).1
  obtain ⟨h1, h2, h3, h4⟩ := midpoint_error _ _ v hlo hup hW
  have hL : lowerBound histGrouping i = (Histogram.cfg4 32).lowerBound i := lowerBound_eq 4 32 i
  have hU : upperBound histGrouping histMaxPower i = (Histogram.cfg4 32).upperBound i := upperBound_eq 4 32 i
  refine ⟨i, (valueToIndex_eq 4 32 v).trans hidx, hi, ?_⟩
  rw [bucketValue, hL, hU, Nat.mod_eq_of_lt (Nat.lt_of_le_of_lt h2 hmax)]
  exact ⟨hlo, hup, h1, h2, h3, h4⟩

def Ev.isReadoutStep : Ev → Bool
  | .swapC _ | .gload _ | .hswap _ _ => true
  | _ => false

theorem readoutEvents_steps (s : State) : ∀ e ∈ readoutEvents s, e.isReadoutStep = true := by
  intro e he
  simp only [readoutEvents, List.mem_append, List.mem_map, List.mem_flatMap] at he
  rcases he with (⟨k, _, rfl⟩ | ⟨k, _, rfl⟩) | ⟨k, _, i, _, rfl⟩ <;> rfl

/-- the steps of a readout write counter and bucket cells only -/
theorem run_readoutSteps (s : State) (evs : List Ev) (h : ∀ e ∈ evs, e.isReadoutStep = true) :
    (run s evs).1 = { s with ctr := (run s evs).1.ctr, hist := (run s evs).1.hist } := by
  induction evs generalizing s with
  | nil => rfl
  | cons e es ih =>
    have he := h e (List.mem_cons_self ..)
    rw [run_cons]; simp only []
    rw [ih _ fun e' he' => h e' (List.mem_cons_of_mem _ he')]
    cases e <;> first | rfl | cases he

theorem run_swapC_list (s : State) (ks : List Key) (hnd : ks.Nodup) :
    (run s (ks.map Ev.swapC)).2 = ks.map (fun k => Obs.counter k (s.ctrOf k)) := by
  induction ks generalizing s with
  | nil => rfl
  | cons k ks ih =>
    obtain ⟨hk, hks⟩ := List.nodup_cons.mp hnd
    rw [List.map_cons, run_cons, ih _ hks]
    refine congrArg _ (List.map_congr_left fun k' hk' => ?_)
    have hne : ¬ k = k' := fun e => hk (e ▸ hk')
    rw [(step_counter_cell k' s (.swapC k)).1, projC, if_neg hne]; rfl

theorem run_gload_list (s : State) (ks : List Key) :
    run s (ks.map Ev.gload) = (s, ks.map (fun k => Obs.gauge k (s.gaugeOf k))) := by
  induction ks with
  | nil => rfl
  | cons k ks ih => simp only [List.map_cons, run_cons, step, ih, List.singleton_append]

theorem counterItems_append (ez : Bool) (u : Nat → Nat) (a b : List Obs) :
    counterItems ez u (a ++ b) = counterItems ez u a ++ counterItems ez u b := by
  simp only [counterItems_eq, List.filterMap_append]

theorem gaugeItems_append (u : Nat → Nat) (a b : List Obs) :
    gaugeItems u (a ++ b) = gaugeItems u a ++ gaugeItems u b := by
  simp only [gaugeItems_eq, List.filterMap_append]

theorem counterItems_counters (ez : Bool) (u : Nat → Nat) (c : Key → Nat) (ks : List Key) :
    counterItems ez u (ks.map (fun k => Obs.counter k (c k))) =
      (ks.filter (fun k => ez || c k != 0)).map
        (fun k => { name := k.name, dims := k.labels, unit := u k.name, obs := [.unsigned (c k)] }) := by
  rw [counterItems_eq, List.filterMap_map, ← List.filterMap_eq_map, List.filterMap_filter]
  rfl

theorem gaugeItems_gauges (u : Nat → Nat) (c : Key → Nat) (ks : List Key) :
    gaugeItems u (ks.map (fun k => Obs.gauge k (c k))) =
      ks.map (fun k => { name := k.name, dims := k.labels, unit := u k.name, obs := [.floating (c k)] }) := by
  rw [gaugeItems_eq, List.filterMap_map, ← List.filterMap_eq_map]
  rfl

theorem gaugeItems_counters (u : Nat → Nat) (c : Key → Nat) (ks : List Key) :
    gaugeItems u (ks.map (fun k => Obs.counter k (c k))) = [] := by
  induction ks with
  | nil => rfl
  | cons k ks ih => exact ih

theorem counterItems_gauges (ez : Bool) (u : Nat → Nat) (c : Key → Nat) (ks : List Key) :
    counterItems ez u (ks.map (fun k => Obs.gauge k (c k))) = [] := by
  induction ks with
  | nil => rfl
  | cons k ks ih => exact ih

theorem run_hswaps_items (ez : Bool) (u : Nat → Nat) (s : State) (evs : List Ev)
    (h : ∀ e ∈ evs, ∃ k i, e = Ev.hswap k i) :
    counterItems ez u (run s evs).2 = [] ∧ gaugeItems u (run s evs).2 = [] := by
  induction evs generalizing s with
  | nil => exact ⟨rfl, rfl⟩
  | cons e es ih =>
    obtain ⟨k, i, rfl⟩ := h _ (List.mem_cons_self ..)
    exact ih _ fun e' he' => h e' (List.mem_cons_of_mem _ he')

/-- **C20 (a whole readout).** A readout that runs without interference on a state whose counter registry has one
cell per key (`regC.Nodup`, which `register` maintains) writes: every registered counter whose cell is non-zero (every
registered counter under `emit_zero_counters`) with exactly the cell's value, every registered gauge with its current
value, every registered histogram — all under the registered name, labels and the currently described unit.
The lists are equal as lists in the model's order, the order of registration (`State.regC` / `regG` / `regH`);
`readout` in `generic.rs` sorts each of the three by key before it builds the entry, and the order in which the
registry visits its cells is not modelled: the statement gives the entry's content up to the order within each list. -/
theorem c20_readout_entry (s : State) (hnd : s.regC.Nodup) :
    (readout s).2.counters =
      (s.regC.filter (fun k => s.emitZero || s.ctrOf k != 0)).map
        (fun k => { name := k.name, dims := k.labels, unit := s.unitOf k.name, obs := [.unsigned (s.ctrOf k)] }) ∧
    (readout s).2.gauges =
      s.regG.map (fun k => { name := k.name, dims := k.labels, unit := s.unitOf k.name, obs := [.floating (s.gaugeOf k)] }) ∧
    (readout s).2.hists.map (fun it => (it.name, it.dims, it.unit)) =
      s.regH.map (fun k => (k.name, k.labels, s.unitOf k.name)) := by
  have hfr := run_readoutSteps s _ (readoutEvents_steps s)
  have hez : (run s (readoutEvents s)).1.emitZero = s.emitZero := by rw [hfr]
  have hunit : (run s (readoutEvents s)).1.unitOf = s.unitOf := by rw [hfr]; rfl
  have hregH : (run s (readoutEvents s)).1.regH = s.regH := by rw [hfr]
  have hgauge : (run s (s.regC.map Ev.swapC)).1.gaugeOf = s.gaugeOf := by
    rw [run_readoutSteps s _ fun e he => by obtain ⟨k, _, rfl⟩ := List.mem_map.mp he; rfl]; rfl
  -- the observations, block by block
  have hobs : (run s (readoutEvents s)).2 =
      s.regC.map (fun k => Obs.counter k (s.ctrOf k)) ++ (s.regG.map (fun k => Obs.gauge k (s.gaugeOf k)) ++
        (run (run s (s.regC.map Ev.swapC)).1 (s.regH.flatMap fun k => (List.range nBuckets).map (Ev.hswap k))).2) := by
    unfold readoutEvents
    rw [List.append_assoc, run_append, run_append, run_swapC_list s _ hnd, run_gload_list, hgauge]
  obtain ⟨hC, hG⟩ := run_hswaps_items s.emitZero s.unitOf (run s (s.regC.map Ev.swapC)).1
    (s.regH.flatMap fun k => (List.range nBuckets).map (Ev.hswap k)) fun e he => by
      obtain ⟨k, _, he⟩ := List.mem_flatMap.mp he
      obtain ⟨i, _, rfl⟩ := List.mem_map.mp he
      exact ⟨k, i, rfl⟩
  refine ⟨?_, ?_, ?_⟩
  · simp only [readout, buildEntry, hez, hunit, hobs, counterItems_append, counterItems_counters,
      counterItems_gauges, hC, List.append_nil]
  · simp only [readout, buildEntry, hunit, hobs, gaugeItems_append, gaugeItems_counters, gaugeItems_gauges, hG,
      List.append_nil, List.nil_append]
  · simp only [readout, buildEntry, histItems, hunit, hregH, List.map_map]
    rfl

theorem register_nodup (reg : List Key) (k : Key) (h : reg.Nodup) : (register reg k).Nodup := by
  unfold register
  split
  · exact h
  · rename_i hk
    exact List.nodup_append.2 ⟨h, List.pairwise_singleton _ k, fun a ha b hb e => hk (List.mem_singleton.1 hb ▸ e ▸ ha)⟩

theorem run_regC_nodup (s : State) (evs : List Ev) (h : s.regC.Nodup) : (run s evs).1.regC.Nodup := by
  induction evs generalizing s with
  | nil => exact h
  | cons e es ih =>
    rw [run_cons]; simp only []
    apply ih
    cases e <;> simp only [step] <;> try exact h
    · exact register_nodup _ _ h
    · split <;> exact h

/-- Non-vacuity / boundary witness for the `count as u32` cast in `Histogram::drain`: a bucket that received 2^32
samples between two drains is written with 0 occurrences (confirmed on the real code by the opt-in `--u32-probe`);
the entry-level count equals the drained count only below 2^32 (assumption of `props/C20.json`). -/
example : bucketsOf ⟨1, []⟩ [Obs.bucket ⟨1, []⟩ 7 4294967296] = [OV.repeated 7 0] := by decide

theorem runTagged_state (s : State) (tagged : List (Bool × Ev)) :
    (runTagged s tagged).1 = (run s (tagged.map (·.2))).1 := by
  induction tagged generalizing s with
  | nil => rfl
  | cons p ps ih => obtain ⟨b, e⟩ := p; simp only [runTagged, List.map_cons, run_cons, ih]

theorem runTagged_all (s : State) (evs : List Ev) : runTagged s (evs.map (fun e => (true, e))) = run s evs := by
  induction evs generalizing s with
  | nil => rfl
  | cons e es ih => simp only [List.map_cons, runTagged, run_cons, ih, ↓reduceIte]

theorem runTagged_append (s : State) (a b : List (Bool × Ev)) :
    runTagged s (a ++ b) =
      ((runTagged (runTagged s a).1 b).1, (runTagged s a).2 ++ (runTagged (runTagged s a).1 b).2) := by
  induction a generalizing s with
  | nil => simp [runTagged]
  | cons p ps ih => obtain ⟨m, e⟩ := p; simp only [List.cons_append, runTagged, ih, List.append_assoc]

theorem runTagged_obs_mem (s : State) (t : List (Bool × Ev)) (e : Ev) (h : (true, e) ∈ t) :
    ∃ s1, ∀ o ∈ (step s1 e).2, o ∈ (runTagged s t).2 := by
  obtain ⟨a, b, rfl⟩ := List.append_of_mem h
  exact ⟨(runTagged s a).1, fun o ho => by
    rw [runTagged_append]; exact List.mem_append_right _ (List.mem_append_left _ ho)⟩

theorem walk_item_unit (ez : Bool) (units : Nat → Nat) (obs : List Obs) (it : Item)
    (h : it ∈ (buildEntryWalk ez units obs).items) : it.unit = units it.name := by
  simp only [Entry.items, buildEntryWalk, List.mem_append] at h
  rcases h with (h | h) | h
  · obtain ⟨k, d, _, _, rfl⟩ := (mem_counterItems _ _ _ _).mp h; rfl
  · obtain ⟨k, b, _, rfl⟩ := (mem_gaugeItems _ _ _).mp h; rfl
  · simp only [histItems, List.mem_map] at h
    obtain ⟨k, _, rfl⟩ := h; rfl

/-- **C20 (unit map is read after the walk).** In every interleaving of a readout's walk with other threads, every
value the readout writes carries the unit of the last `describe_*` of its name that precedes the *end of the walk* —
describes that happen while the walk is in progress included. -/
theorem c20_unit_read_after_walk (s : State) (tagged : List (Bool × Ev)) (it : Item)
    (h : it ∈ (readoutInterleaved s tagged).items) :
    it.unit = lastDescribe it.name (s.unitOf it.name) (tagged.map (·.2)) := by
  have := walk_item_unit _ _ _ it h
  rw [this, runTagged_state, run_unitOf]

theorem mem_histKeys (k : Key) (obs : List Obs) : k ∈ histKeys obs ↔ ∃ i c, Obs.bucket k i c ∈ obs := by
  induction obs with
  | nil => simp [histKeys]
  | cons o os ih =>
    cases o with
    | bucket k' i c =>
      have hhd : k ∈ histKeys (Obs.bucket k' i c :: os) ↔ k = k' ∨ k ∈ histKeys os := by
        simp only [histKeys]; split
        · exact ⟨Or.inr, fun h => h.elim (· ▸ ‹_›) id⟩
        · exact List.mem_cons
      simp only [hhd, ih, List.mem_cons, Obs.bucket.injEq, exists_or, exists_and_left, exists_eq, and_true]
    | _ => simp only [histKeys, ih, List.mem_cons, reduceCtorEq, false_or]

/-- **C20 (describe before register, under concurrency).** Take any interleaving in which `describe nm u` happens —
on any thread — and is the last describe of `nm`; everything after it (`post`) may contain the registration of a
metric named `nm`, its updates, and steps of this readout's walk. Then every value named `nm` that the readout writes
carries `u`; and if the walk loads a gauge `k` / swaps a bucket of a histogram `k` named `nm` after the describe, the
entry does contain that gauge / histogram, under its name, with its labels, with unit `u`. (For a counter the same
holds whenever its delta is written, by the first clause.) This is what fixes the order "walk, then unit map". -/
theorem c20_described_before_registered (s : State) (pre post : List (Bool × Ev)) (b : Bool) (nm u : Nat)
    (hlast : ∀ u', Ev.describe nm u' ∉ post.map (·.2)) :
    (∀ it ∈ (readoutInterleaved s (pre ++ (b, Ev.describe nm u) :: post)).items, it.name = nm → it.unit = u) ∧
    (∀ k, k.name = nm → (true, Ev.gload k) ∈ post →
      ∃ bits, ({ name := nm, dims := k.labels, unit := u, obs := [.floating bits] } : Item) ∈
        (readoutInterleaved s (pre ++ (b, Ev.describe nm u) :: post)).gauges) ∧
    (∀ k i, k.name = nm → (true, Ev.hswap k i) ∈ post →
      ∃ ovs, ({ name := nm, dims := k.labels, unit := u, obs := ovs } : Item) ∈
        (readoutInterleaved s (pre ++ (b, Ev.describe nm u) :: post)).hists) := by
  have hunit : (runTagged s (pre ++ (b, Ev.describe nm u) :: post)).1.unitOf nm = u := by
    rw [runTagged_state, run_unitOf, List.map_append, List.map_cons]
    exact lastDescribe_spec nm _ u _ _ hlast
  have hpost : ∀ e, (true, e) ∈ post → ∃ s1, ∀ o ∈ (step s1 e).2,
      o ∈ (runTagged s (pre ++ (b, Ev.describe nm u) :: post)).2 :=
    fun e he => runTagged_obs_mem s _ e (List.mem_append_right _ (List.mem_cons_of_mem _ he))
  refine ⟨fun it hit hname => ?_, fun k hk hg => ?_, fun k i hk hh => ?_⟩
  · rw [walk_item_unit _ _ _ it hit, hname, hunit]
  · obtain ⟨s1, hs1⟩ := hpost _ hg
    exact ⟨s1.gaugeOf k, (mem_gaugeItems _ _ _).mpr ⟨k, _, hs1 _ (List.mem_cons_self ..), by rw [hk, hunit]⟩⟩
  · obtain ⟨s1, hs1⟩ := hpost _ hh
    exact ⟨_, List.mem_map.mpr ⟨k, (mem_histKeys k _).mpr ⟨i, _, hs1 _ (List.mem_cons_self ..)⟩, by rw [hk, hunit]⟩⟩

/-- **Witness that the order matters** (this is exactly the change "clone the unit map before the walk"): a readout is
walking (it has already swapped counter `c`); another thread describes name 7 with unit 4 (Milliseconds), registers
histogram `h` named 7 and records a sample; the walk then drains `h`. Reading the unit map after the walk writes the
histogram with unit 4; reading it before the walk writes it with `Unit::None`. -/
example :
    let c : Key := ⟨1, []⟩
    let h : Key := ⟨7, [(0, 1)]⟩
    let s := (run (State.init false) [.regC c, .inc c 3]).1
    let tagged : List (Bool × Ev) :=
      [(true, .swapC c), (false, .describe 7 4), (false, .regH h), (false, .hrec h 1000), (true, .hswap h 111)]
    (readoutInterleaved s tagged).hists = [⟨7, [(0, 1)], 4, [.repeated 1007 1]⟩] ∧
    (readoutUnitsFirst s tagged).hists = [⟨7, [(0, 1)], 0, [.repeated 1007 1]⟩] ∧
    (readoutInterleaved s tagged).counters = [⟨1, [], 0, [.unsigned 3]⟩] := by
  decide +kernel

/-- the sequential `readout` is the interleaved readout with nobody else running (counters and gauges literally; the
histogram list of the sequential entry is the registry's, that of a walk the histograms it visited) -/
theorem readout_is_interleaved (s : State) :
    (readout s).2.counters = (readoutInterleaved s ((readoutEvents s).map (fun e => (true, e)))).counters ∧
    (readout s).2.gauges = (readoutInterleaved s ((readoutEvents s).map (fun e => (true, e)))).gauges := by
  simp only [readout, readoutInterleaved, runTagged_all, buildEntry, buildEntryWalk, and_self]

open Reporter

theorem runR_append (step : RState → RStep → RState × List Mark) (s : RState) (a b : List RStep) :
    runR step s (a ++ b) = ((runR step (runR step s a).1 b).1, (runR step s a).2 ++ (runR step (runR step s a).1 b).2) := by
  induction a generalizing s with
  | nil => simp [runR]
  | cons e es ih => simp only [List.cons_append, runR, ih, List.append_assoc]

theorem stepOrig_done (s : RState) (e : RStep) (h0 : s.pc ≠ .done) (h : (stepOrig s e).1.pc = .done) :
    Mark.pub ∈ (stepOrig s e).2 := by
  obtain ⟨pc, c, n⟩ := s
  cases e with
  | task fired =>
    cases pc with
    | fin => exact List.mem_cons_self ..
    | done => exact absurd rfl h0
    | head => cases h
    | sel => cases fired <;> cases c <;> cases h
  | _ => exact absurd h h0

theorem orig_done_publishes (s : RState) (tr : List RStep) (h0 : s.pc ≠ .done)
    (hd : (runR stepOrig s tr).1.pc = .done) : Mark.pub ∈ (runR stepOrig s tr).2 := by
  induction tr generalizing s with
  | nil => exact absurd hd h0
  | cons e es ih =>
    by_cases hp : (stepOrig s e).1.pc = .done
    · exact List.mem_append_left _ (stepOrig_done s e h0 hp)
    · exact List.mem_append_right _ (ih _ hp hd)

theorem orig_no_cancel_stays (tr : List RStep) (h : RStep.cancel ∉ tr) (s : RState) (hs : s.pc = .sel)
    (hc : s.cancelled = false) : (runR stepOrig s tr).1.pc = .sel ∧ (runR stepOrig s tr).1.cancelled = false := by
  induction tr generalizing s with
  | nil => exact ⟨hs, hc⟩
  | cons e es ih =>
    have hes : RStep.cancel ∉ es := fun h' => h (List.mem_cons_of_mem _ h')
    obtain ⟨_, _, n⟩ := s
    cases hs; cases hc
    cases e with
    | cancel => exact absurd (List.mem_cons_self ..) h
    | task fired => cases fired <;> exact ih hes _ rfl rfl
    | _ => exact ih hes _ rfl rfl

/-- **C20 (shutdown publishes the rest).** Every run of the program and the reporter task — any interleaving of
updates, the shutdown's cancel and task steps, with any timer behaviour — in which `shutdown()` completes (the task
has ended) contains a published readout AFTER the cancel, hence after every update that preceded the shutdown call:
nothing that was recorded before `shutdown()` was called can be left unreported. -/
theorem c20_shutdown_publishes_rest (pre post : List RStep) (hpre : RStep.cancel ∉ pre)
    (hdone : (runR stepOrig initOrig (pre ++ RStep.cancel :: post)).1.pc = .done) :
    (runR stepOrig initOrig (pre ++ RStep.cancel :: post)).2 =
      (runR stepOrig initOrig pre).2 ++ (runR stepOrig (runR stepOrig initOrig pre).1 (RStep.cancel :: post)).2 ∧
    Mark.pub ∈ (runR stepOrig (runR stepOrig initOrig pre).1 (RStep.cancel :: post)).2 := by
  rw [runR_append] at hdone ⊢
  refine ⟨rfl, ?_⟩
  have hstay := orig_no_cancel_stays pre hpre initOrig rfl rfl
  exact orig_done_publishes _ _ (by rw [hstay.1]; decide) hdone

/-- **Witnesses** that the "deduplicated" loop breaks this: (1) the cancel precedes the task's first poll — the task
ends without publishing anything, the update is lost; (2) the cancel lands between a periodic publish and the next
test of the loop condition. The code's loop publishes in both runs. -/
example :
    (runR stepDedup initDedup [.update, .cancel, .task false, .task false]) = (⟨.done, true, 1⟩, [.upd]) ∧
    (runR stepOrig initOrig [.update, .cancel, .task false, .task false]) = (⟨.done, true, 1⟩, [.upd, .pub]) ∧
    (runR stepDedup initDedup [.task false, .update, .task true, .update, .cancel, .task false, .task false])
      = (⟨.done, true, 1⟩, [.upd, .pub, .upd]) ∧
    (runR stepOrig initOrig [.task false, .update, .task true, .update, .cancel, .task false, .task false])
      = (⟨.done, true, 1⟩, [.upd, .pub, .upd, .pub]) := by
  decide +kernel

/-- the trace without the clone / drop steps of `MetricReporter` handles -/
def eraseHandles : List RStep → List RStep
  | [] => []
  | .cloneHandle :: es => eraseHandles es
  | .dropHandle :: es => eraseHandles es
  | .update :: es => .update :: eraseHandles es
  | .cancel :: es => .cancel :: eraseHandles es
  | .task f :: es => .task f :: eraseHandles es

theorem stepOrig_congr (s t : RState) (e : RStep) (h1 : s.pc = t.pc) (h2 : s.cancelled = t.cancelled) :
    (stepOrig s e).2 = (stepOrig t e).2 ∧ (stepOrig s e).1.pc = (stepOrig t e).1.pc ∧
      (stepOrig s e).1.cancelled = (stepOrig t e).1.cancelled := by
  obtain ⟨pc, c, n⟩ := s
  obtain ⟨_, _, m⟩ := t
  cases h1; cases h2
  cases e with
  | task fired =>
    cases pc with
    | sel => cases fired <;> cases c <;> exact ⟨rfl, rfl, rfl⟩
    | _ => exact ⟨rfl, rfl, rfl⟩
  | _ => exact ⟨rfl, rfl, rfl⟩

theorem handles_key (tr : List RStep) : ∀ (s t : RState), s.pc = t.pc → s.cancelled = t.cancelled →
    (runR stepOrig s tr).2 = (runR stepOrig t (eraseHandles tr)).2 ∧
    (runR stepOrig s tr).1.pc = (runR stepOrig t (eraseHandles tr)).1.pc ∧
    (runR stepOrig s tr).1.cancelled = (runR stepOrig t (eraseHandles tr)).1.cancelled := by
  induction tr with
  | nil => intro s t h1 h2; exact ⟨rfl, h1, h2⟩
  | cons e es ih =>
    intro s t h1 h2
    cases e with
    | cloneHandle | dropHandle => exact ih (stepOrig s _).1 t h1 h2
    | _ =>
      obtain ⟨ho, hp, hc⟩ := stepOrig_congr s t _ h1 h2
      obtain ⟨io, ih'⟩ := ih _ _ hp hc
      exact ⟨by show _ ++ _ = _ ++ _; rw [ho, io], ih'⟩

/-- **C20 (reporter handles).** The token is cancelled by `shutdown()` only: in every run, deleting all clone / drop
steps of `MetricReporter` handles changes neither what is published (and when, relative to the updates) nor the
task's state — the handle count is bookkeeping that no transition reads. -/
theorem c20_reporter_handles_irrelevant (s : RState) (tr : List RStep) :
    (runR stepOrig s tr).2 = (runR stepOrig s (eraseHandles tr)).2 ∧
    (runR stepOrig s tr).1.pc = (runR stepOrig s (eraseHandles tr)).1.pc ∧
    (runR stepOrig s tr).1.cancelled = (runR stepOrig s (eraseHandles tr)).1.cancelled :=
  handles_key tr s s rfl rfl

/-- **Witness**: were dropping a handle to cancel the token (`stepDropCancels`), a clone dropped while the program is
still running ends the task early — the update made afterwards is never published, although `shutdown()` is called on
the surviving handle and completes; the code's task publishes it. -/
example :
    let tr : List RStep := [.task false, .update, .cloneHandle, .dropHandle, .task false, .task false,
                            .update, .cancel, .task false, .task false]
    (runR stepDropCancels initOrig tr).2 = [.upd, .pub, .upd] ∧ (runR stepDropCancels initOrig tr).1.pc = .done ∧
    (runR stepOrig initOrig tr).2 = [.upd, .upd, .pub] ∧ (runR stepOrig initOrig tr).1.pc = .done := by
  decide +kernel

theorem runScript_evs (s : State) (evs : List Ev) (ops : List Op) :
    runScript s (evs.map Op.ev ++ ops) = runScript (run s evs).1 ops := by
  induction evs generalizing s with
  | nil => rfl
  | cons e es ih => simp only [List.map_cons, List.cons_append, runScript, stepOp, run_cons, ih]

/-- **C20 (`record_many`).** `Histogram::record_many(v, n)` is `n` times `record(v)`: every later readout of the script
writes exactly what it writes after `n` single records — so the exactly-once and conservation theorems (stated for
`hrec` steps) cover `record_many` by construction. -/
theorem c20_record_many_is_n_records (s : State) (k : Key) (v n : Nat) (ops : List Op) :
    runScript s (Op.recordMany k v n :: ops) = runScript s ((List.replicate n (Ev.hrec k v)).map Op.ev ++ ops) := by
  rw [runScript_evs]; rfl

theorem cellRun_replicate_add (c m : Nat) (v : Nat) :
    cellRun (fun _ => 1) c (List.replicate (m + 1) (CellEv.add v)) = ((c + (m + 1)) % two64, []) := by
  induction m generalizing c with
  | zero => rfl
  | succ m ih => rw [List.replicate_succ, cellRun, ih, Nat.mod_add_mod, Nat.add_assoc, Nat.add_comm 1]

/-- … and the `n` single `fetch_add(1)`s amount to one `fetch_add(n)` on the bucket of `v` (what an overriding
`record_many` may do instead): the bucket cell afterwards holds `(cell + n) mod 2^64`, nothing is handed out. -/
theorem c20_record_many_single_add (s : State) (k : Key) (v n i : Nat)
    (hi : valueToIndex histGrouping histMaxPower v = some i) (hn : 0 < n) :
    (run s (List.replicate n (Ev.hrec k v))).1.histOf k i = (s.histOf k i + n) % two64 ∧
    countsH k i (run s (List.replicate n (Ev.hrec k v))).2 = [] := by
  obtain ⟨m, rfl⟩ : ∃ m, n = m + 1 := ⟨n - 1, by omega⟩
  have hr := run_hist_cell s (List.replicate (m + 1) (Ev.hrec k v)) k i
  rwa [List.filterMap_replicate_of_some (by simp [projH, hi] : projH k i (Ev.hrec k v) = some (CellEv.add v)),
    cellRun_replicate_add] at hr

/-- Non-vacuity: `record_many(1000, 3)` then a readout reports bucket value 1007 three times; `absolute` and gauge
increment / decrement act on one cell. -/
example :
    let h : Key := ⟨2, []⟩
    let c : Key := ⟨1, []⟩
    let r := runScript (State.init false)
      [.ev (.regH h), .recordMany h 1000 3, .ev (.regC c), .ev (.inc c 4), .absolute c 9, .absolute c 2, .readout]
    r.2.map (fun e => (e.counters, e.hists)) =
      [([⟨1, [], 0, [.unsigned 9]⟩], [⟨2, [], 0, [.repeated 1007 3]⟩])] := by
  decide +kernel

/-- Non-vacuity of the sequential readout: a counter with labels, a described histogram; the second readout reports
nothing for the counter (zero delta dropped) and an empty histogram. -/
example :
    let k : Key := ⟨1, [(0, 1)]⟩
    let h : Key := ⟨2, []⟩
    let r := runScript (State.init false)
      [.ev (.regC k), .ev (.inc k 5), .ev (.describe 2 4), .ev (.regH h), .ev (.hrec h 1000), .ev (.hrec h 1001),
       .readout, .ev (.inc k 0), .readout]
    r.2.map (fun e => (e.counters, e.hists)) =
      [([⟨1, [(0, 1)], 0, [.unsigned 5]⟩], [⟨2, [], 4, [.repeated 1007 2]⟩]), ([], [⟨2, [], 4, []⟩])] := by
  decide +kernel

/-- Non-vacuity: two updaters racing with two readouts on one counter (`inc 5`, swap, `inc 7`, `inc 2^64-1`, swap,
`inc 3`): the reported deltas are 5 and 6 (= 7 + 2^64-1 wrapped), 3 stays; a histogram sample lands between the
bucket swaps of a drain. -/
example :
    let k : Key := ⟨1, [(0, 1)]⟩
    let evs := [Ev.regC k, .inc k 5, .swapC k, .inc k 7, .hrec k 1000, .inc k 18446744073709551615, .hswap k 111,
                .swapC k, .hrec k 1001, .inc k 3]
    deltasC k (run (State.init false) evs).2 = [5, 6] ∧ (run (State.init false) evs).1.ctrOf k = 3 ∧
    countsH k 111 (run (State.init false) evs).2 = [1] ∧ (run (State.init false) evs).1.histOf k 111 = 1 := by
  decide +kernel

end MetricsRs

#print axioms MetricsRs.c20_counter_exactly_once
#print axioms MetricsRs.c20_counter_conservation_mod
#print axioms MetricsRs.c20_counter_conservation
#print axioms MetricsRs.c20_hist_exactly_once
#print axioms MetricsRs.c20_hist_conservation
#print axioms MetricsRs.c20_gauge_last
#print axioms MetricsRs.c20_describe_order
#print axioms MetricsRs.c20_entry_shape
#print axioms MetricsRs.c20_hist_config_matches_source
#print axioms MetricsRs.c20_unit_table_preserves_quantity
#print axioms MetricsRs.c20_unit_none_is_none
#print axioms MetricsRs.c20_hist_value_error
#print axioms MetricsRs.c20_readout_entry
#print axioms MetricsRs.c20_unit_read_after_walk
#print axioms MetricsRs.c20_described_before_registered
#print axioms MetricsRs.c20_shutdown_publishes_rest
#print axioms MetricsRs.c20_record_many_is_n_records
#print axioms MetricsRs.c20_record_many_single_add
#print axioms MetricsRs.c20_reporter_handles_irrelevant
