import Model.Sampling
import Mathlib.Algebra.Order.Field.Rat
import Mathlib.Algebra.Order.Field.Basic
import Mathlib.Algebra.Order.BigOperators.Group.List
/-!
# C12, congressional sampler over exact rationals

`ratArith` instantiates the generic expression tree of `Model/Sampling.lean` (the same one the
binary32 twin `f32Arith` runs) with `ℚ`.
-/
namespace Sampling

def ratArith : Arith ℚ where
  ofNat n := (n : ℚ)
  add a b := a + b
  sub a b := a - b
  mul a b := a * b
  div a b := a / b
  lt a b := decide (a < b)
  le a b := decide (a ≤ b)

abbrev Q := ratArith

/-- What holds of every group at every moment of every history. -/
structure GroupInv (g : Group ℚ) : Prop where
  seen : g.cur = 0 → 1 ≤ g.samples
  avg_nonneg : 0 ≤ g.avg
  avg_pos : 1 ≤ g.samples → 0 < g.avg
  rate_pos : 0 < g.rate
  rate_le : g.rate ≤ 1

def Inv (s : State ℚ) : Prop := ∀ g ∈ s.groups, GroupInv g

theorem inv_init (t : Nat) : Inv (State.init t : State ℚ) := fun _ hg => nomatch hg

/-- Counting an entry keeps any property of groups that holds of a fresh group and does not depend on
`cur`; the rate handed out is 1 (fresh group) or the rate of a tracked group. -/
theorem observeGroups_forall {α : Type} (A : Arith α) (P : Group α → Prop) (gid : Key)
    (hnew : P ⟨gid, 1, 0, 0, A.ofNat 0, A.ofNat 1, A.ofNat 0⟩)
    (hcur : ∀ g, P g → P { g with cur := g.cur + 1 }) (gs : List (Group α)) (h : ∀ g ∈ gs, P g) :
    (∀ g ∈ (observeGroups A gid gs).1, P g) ∧
      ((observeGroups A gid gs).2 = A.ofNat 1 ∨ ∃ g ∈ gs, (observeGroups A gid gs).2 = g.rate) := by
  induction gs with
  | nil => exact ⟨List.forall_mem_singleton.2 hnew, .inl rfl⟩
  | cons g gs ih =>
    obtain ⟨hg, hgs⟩ := List.forall_mem_cons.1 h
    unfold observeGroups
    split
    · exact ⟨List.forall_mem_cons.2 ⟨hcur g hg, hgs⟩, .inr ⟨g, List.mem_cons_self, rfl⟩⟩
    · obtain ⟨ih1, ih2⟩ := ih hgs
      exact ⟨List.forall_mem_cons.2 ⟨hg, ih1⟩, ih2.imp_right fun ⟨x, hx, e⟩ => ⟨x, List.mem_cons_of_mem _ hx, e⟩⟩

theorem observe_inv (s : State ℚ) (gid : Key) (h : Inv s) :
    Inv (observe Q s gid).1 ∧ 0 < (observe Q s gid).2 ∧ (observe Q s gid).2 ≤ 1 := by
  obtain ⟨h1, h2⟩ := observeGroups_forall Q GroupInv gid
    ⟨fun h => absurd h (Nat.succ_ne_zero 0), Nat.cast_zero.ge, fun h => absurd h (Nat.not_succ_le_zero 0),
      one_pos.trans_eq Nat.cast_one.symm, Nat.cast_one.le⟩
    (fun g hg => ⟨fun h => absurd h (Nat.succ_ne_zero _), hg.avg_nonneg, hg.avg_pos, hg.rate_pos, hg.rate_le⟩) s.groups h
  refine ⟨h1, ?_⟩
  rcases h2 with e | ⟨g, hg, e⟩
  · exact e ▸ ⟨one_pos.trans_eq Nat.cast_one.symm, Nat.cast_one.le⟩
  · exact e ▸ ⟨(h g hg).rate_pos, (h g hg).rate_le⟩

theorem observeN_inv (s : State ℚ) (gid : Key) (n : Nat) (h : Inv s) : Inv (observeN Q s gid n) := by
  induction n generalizing s with
  | zero => exact h
  | succ n ih => exact ih _ (observe_inv s gid h).1

/-- a group that survives `update_and_retain` has been seen at least once (so its average is positive) -/
theorem updateAndRetain_inv (C : Consts) (hw : 1 ≤ C.window) {g g' : Group ℚ} (hg : GroupInv g)
    (h : updateAndRetain Q C g = some g') : GroupInv g' ∧ g'.cur = 0 := by
  unfold updateAndRetain at h
  split at h
  · rename_i hcur
    cases h
    have hs : 1 ≤ min C.window (g.samples + 1) := Nat.le_min.2 ⟨hw, Nat.le_add_left 1 _⟩
    have hn : (1 : ℚ) ≤ (min C.window (g.samples + 1) : Nat) := Nat.one_le_cast.2 hs
    have havg : 0 < (addSample Q C g g.cur).avg :=
      add_pos_of_pos_of_nonneg
        (mul_pos (div_pos one_pos (one_pos.trans_le hn)) (Nat.cast_pos.2 hcur))
        (mul_nonneg (sub_nonneg.2 ((div_le_one (one_pos.trans_le hn)).2 hn)) hg.avg_nonneg)
    exact ⟨⟨fun _ => hs, havg.le, fun _ => havg, hg.rate_pos, hg.rate_le⟩, rfl⟩
  · have hc0 : g.cur = 0 := Nat.eq_zero_of_not_pos ‹_›
    split at h
    · cases h
    · cases h
      exact ⟨⟨fun _ => hg.seen hc0, hg.avg_nonneg, hg.avg_pos, hg.rate_pos, hg.rate_le⟩, hc0⟩

theorem mem_reorder {α : Type} (order : List Key) (gs : List (Group α)) (g : Group α)
    (h : g ∈ reorder order gs) : g ∈ gs := by
  unfold reorder at h
  rcases List.mem_append.mp h with h | h
  · obtain ⟨id, _, hf⟩ := List.mem_filterMap.mp h
    exact List.mem_of_find?_eq_some hf
  · exact (List.mem_filter.mp h).1

theorem ratMin (a b : ℚ) : Q.min a b = min a b := by
  simp only [Arith.min, ratArith, decide_eq_true_eq]
  split
  · exact (min_eq_right (le_of_lt ‹_›)).symm
  · exact (min_eq_left (not_lt.1 ‹_›)).symm

theorem congressSize_eq (flat senate a : ℚ) :
    congressSize Q flat senate a = if flat * a < senate then min a senate else flat * a := by
  simp only [congressSize, ratMin]
  simp only [ratArith, decide_eq_true_eq]

theorem scaledRate_eq (scale : ℚ) (g : Group ℚ) (h : 0 < g.avg) :
    scaledRate Q scale g = min (g.size * scale / g.avg) 1 := by
  simp only [scaledRate, ratMin]
  simp only [ratArith, decide_eq_true_eq, Nat.cast_zero, Nat.cast_one, if_neg (not_le.2 h)]

theorem congressSize_pos (flat senate a : ℚ) (hf0 : 0 < flat) (hs : 0 < senate) (ha : 0 < a) :
    0 < congressSize Q flat senate a := by
  rw [congressSize_eq]
  split
  · exact lt_min ha hs
  · exact mul_pos hf0 ha

/-- `size_in_congress / average`, the quantity the final rate is proportional to, does not increase
with the average when `flat ≤ 1` (i.e. when the interval was above target). -/
theorem congressSize_antitone (flat senate a b : ℚ) (hf0 : 0 < flat) (hf1 : flat ≤ 1)
    (hs : 0 < senate) (ha : 0 < a) (hab : a ≤ b) :
    congressSize Q flat senate b * a ≤ congressSize Q flat senate a * b := by
  have hb := ha.trans_le hab
  rw [congressSize_eq, congressSize_eq]
  by_cases hga : flat * a < senate
  · rw [if_pos hga]
    by_cases hgb : flat * b < senate
    · rw [if_pos hgb]
      rcases le_total a senate with h | h
      · rw [min_eq_left h, mul_comm a b]
        exact mul_le_mul_of_nonneg_right (min_le_left _ _) ha.le
      · rw [min_eq_right h, min_eq_right (h.trans hab)]
        exact mul_le_mul_of_nonneg_left hab hs.le
    · rw [if_neg hgb, mul_right_comm]
      exact mul_le_mul_of_nonneg_right (le_min (mul_le_of_le_one_left ha.le hf1) hga.le) hb.le
  · rw [if_neg hga, if_neg fun h => hga ((mul_le_mul_of_nonneg_left hab hf0.le).trans_lt h), mul_right_comm]

theorem sum_map_mul_right {β : Type} (l : List β) (f : β → ℚ) (c : ℚ) :
    (l.map fun x => f x * c).sum = (l.map f).sum * c := by
  induction l with
  | nil => exact (zero_mul c).symm
  | cons x l ih => simp only [List.map_cons, List.sum_cons, ih, add_mul]

theorem foldl_add_zero (l : List (Group ℚ)) :
    l.foldl (fun acc g => Q.add acc g.size) (Q.ofNat 0) = (l.map (·.size)).sum := by
  rw [List.sum_eq_foldl, List.foldl_map]
  exact congrArg (List.foldl _ · l) Nat.cast_zero

/-- The groups after `update_rates`, described without the fold: the retained groups in some
order, with `size`/`rate` recomputed. -/
theorem updateRates_groups (C : Consts) (order : List Key) (s : State ℚ) :
    ∃ flat senate scale : ℚ, flat = s.target / s.cur ∧
      senate = s.target / (reorder order (s.groups.filterMap (updateAndRetain Q C))).length ∧
      scale = s.target / ((reorder order (s.groups.filterMap (updateAndRetain Q C))).map fun g =>
        congressSize Q flat senate g.avg).sum ∧
      (updateRates Q C order s).groups =
        (reorder order (s.groups.filterMap (updateAndRetain Q C))).map fun g =>
          { g with size := congressSize Q flat senate g.avg,
                   rate := if s.cur ≤ s.target then 1
                     else scaledRate Q scale { g with size := congressSize Q flat senate g.avg } } := by
  refine ⟨_, _, _, rfl, rfl, rfl, ?_⟩
  have hle : (Q.le (Q.ofNat s.cur) (Q.ofNat s.target) = true) = (s.cur ≤ s.target) := by
    simp only [ratArith, decide_eq_true_eq, Nat.cast_le]
  simp only [updateRates, foldl_add_zero, List.map_map, hle]
  by_cases h : s.cur ≤ s.target <;> simp only [h, if_true, if_false] <;> rfl

/-- Everything C12 states about one end of interval, for a state satisfying the history invariant. -/
theorem updateRates_spec (C : Consts) (hw : 1 ≤ C.window) (order : List Key) (s : State ℚ)
    (hinv : Inv s) (ht : 0 < s.target) :
    let s' := updateRates Q C order s
    -- every group has been seen, its rate is in (0,1]
    (∀ g ∈ s'.groups, GroupInv g ∧ g.cur = 0) ∧
    -- the interval saw no more than the target: every rate is 1
    (s.cur ≤ s.target → ∀ g ∈ s'.groups, g.rate = 1) ∧
    -- above target: the budget and the ordering of rates
    (s.target < s.cur →
      (s'.groups.map fun g => g.avg * g.rate).sum ≤ (s.target : ℚ) ∧
      ∀ g ∈ s'.groups, ∀ h ∈ s'.groups, g.avg ≤ h.avg → h.rate ≤ g.rate) := by
  dsimp only
  obtain ⟨flat, senate, scale, hflat, hsen, hsc, hgroups⟩ := updateRates_groups C order s
  generalize hgs : reorder order (s.groups.filterMap (updateAndRetain Q C)) = gs at hsen hsc hgroups
  have hret : ∀ g ∈ gs, GroupInv g ∧ g.cur = 0 := fun g hg => by
    obtain ⟨g0, hg0, hu⟩ := List.mem_filterMap.mp (mem_reorder _ _ _ (hgs ▸ hg))
    exact updateAndRetain_inv C hw (hinv g0 hg0) hu
  have havg : ∀ g ∈ gs, 0 < g.avg := fun g hg => (hret g hg).1.avg_pos ((hret g hg).1.seen (hret g hg).2)
  rw [hgroups]
  by_cases hle : s.cur ≤ s.target
  · simp only [hle, if_true]
    exact ⟨List.forall_mem_map.2 fun g hg => ⟨⟨(hret g hg).1.seen, (hret g hg).1.avg_nonneg,
        (hret g hg).1.avg_pos, one_pos, le_refl 1⟩, (hret g hg).2⟩,
      fun _ => List.forall_mem_map.2 fun _ _ => rfl, fun h => absurd hle (Nat.not_le.2 h)⟩
  · simp only [hle, if_false]
    have hgt : (s.target : ℚ) < s.cur := Nat.cast_lt.2 (Nat.lt_of_not_le hle)
    have htq : (0 : ℚ) < s.target := Nat.cast_pos.2 ht
    have hf0 : 0 < flat := hflat ▸ div_pos htq (htq.trans hgt)
    have hf1 : flat ≤ 1 := hflat ▸ (div_le_one (htq.trans hgt)).2 hgt.le
    have hpos : ∀ g ∈ gs, 0 < senate ∧ 0 < scale := fun g hg => by
      have hs : 0 < senate := hsen ▸ div_pos htq (Nat.cast_pos.2 (List.length_pos_of_mem hg))
      exact ⟨hs, hsc ▸ div_pos htq (List.sum_pos _
        (List.forall_mem_map.2 fun x hx => congressSize_pos _ _ _ hf0 hs (havg x hx))
        (List.map_eq_nil_iff.not.2 (List.ne_nil_of_mem hg)))⟩
    have hrate : ∀ g ∈ gs, scaledRate Q scale { g with size := congressSize Q flat senate g.avg } =
        min (congressSize Q flat senate g.avg * scale / g.avg) 1 := fun g hg => scaledRate_eq _ _ (havg g hg)
    refine ⟨List.forall_mem_map.2 fun g hg => ⟨⟨(hret g hg).1.seen, (hret g hg).1.avg_nonneg,
        (hret g hg).1.avg_pos, ?_, ?_⟩, (hret g hg).2⟩, False.elim, fun _ => ⟨?_, ?_⟩⟩
    · exact hrate g hg ▸ lt_min (div_pos (mul_pos (congressSize_pos _ _ _ hf0 (hpos g hg).1 (havg g hg))
        (hpos g hg).2) (havg g hg)) one_pos
    · exact hrate g hg ▸ min_le_right _ _
    · rw [List.map_map]
      calc _ ≤ (gs.map fun g => congressSize Q flat senate g.avg * scale).sum :=
            List.sum_le_sum fun g hg => by
              rw [Function.comp, hrate g hg]
              exact (mul_le_mul_of_nonneg_left (min_le_left _ _) (havg g hg).le).trans_eq
                (mul_div_cancel₀ _ (havg g hg).ne')
        _ = _ := sum_map_mul_right ..
        _ ≤ _ := by
            rw [hsc]
            rcases eq_or_ne (gs.map fun g => congressSize Q flat senate g.avg).sum 0 with h | h
            · rw [h, zero_mul]; exact htq.le
            · rw [mul_div_cancel₀ _ h]
    · refine List.forall_mem_map.2 fun g hg => List.forall_mem_map.2 fun h hh hav => ?_
      show scaledRate _ _ _ ≤ scaledRate _ _ _
      rw [hrate g hg, hrate h hh]
      refine min_le_min_right 1 ((div_le_div_iff₀ (havg h hh) (havg g hg)).2 ?_)
      rw [mul_right_comm, mul_right_comm (congressSize Q flat senate g.avg)]
      exact mul_le_mul_of_nonneg_right
        (congressSize_antitone flat senate g.avg h.avg hf0 hf1 (hpos g hg).1 (havg g hg) hav) (hpos g hg).2.le

theorem observeN_target_cur (s : State ℚ) (gid : Key) (n : Nat) :
    (observeN Q s gid n).target = s.target ∧ (observeN Q s gid n).cur = s.cur + n := by
  induction n generalizing s with
  | zero => exact ⟨rfl, rfl⟩
  | succ n ih => exact ⟨(ih _).1, (ih _).2.trans (Nat.add_right_comm ..)⟩

theorem updateRates_target_cur (C : Consts) (order : List Key) (s : State ℚ) :
    (updateRates Q C order s).target = s.target ∧ (updateRates Q C order s).cur = 0 := by
  simp only [updateRates]; split <;> exact ⟨rfl, rfl⟩

theorem step_inv (C : Consts) (hw : 1 ≤ C.window) (s : State ℚ) (op : Op)
    (hinv : Inv s) (ht : 0 < s.target) :
    Inv (step Q C s op) ∧ (step Q C s op).target = s.target := by
  cases op with
  | obs gid => exact ⟨(observe_inv s gid hinv).1, rfl⟩
  | obsN gid n => exact ⟨observeN_inv s gid n hinv, (observeN_target_cur s gid n).1⟩
  | endInterval order =>
    exact ⟨fun g hg => ((updateRates_spec C hw order s hinv ht).1 g hg).1, (updateRates_target_cur C order s).1⟩

theorem run_inv (C : Consts) (hw : 1 ≤ C.window) (s : State ℚ) (ops : List Op)
    (hinv : Inv s) (ht : 0 < s.target) :
    Inv (run Q C s ops) ∧ (run Q C s ops).target = s.target := by
  induction ops generalizing s with
  | nil => exact ⟨hinv, rfl⟩
  | cons op ops ih =>
    have h := step_inv C hw s op hinv ht
    have := ih (step Q C s op) h.1 (h.2 ▸ ht)
    exact ⟨this.1, this.2.trans h.2⟩
end Sampling
