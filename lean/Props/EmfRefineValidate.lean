import Props.EmfRefineSort
import Props.C03
import Props.C08Inv
import Props.C14
/-!
Stage 1 of the refinement: the validation state machine of the operational model (`Emf.Writer`:
`errors`, `vmap`, flags, the keys and indexes of the dimension-set map) simulates the validation state
machine of the declarative model (`EmfSpec.VState`), item by item.
-/
namespace EmfRefine
open EmfSpec

variable {F : Type}

def kconv : Kind → Emf.LineKind
  | .string => .string
  | .metric i => .metric i
  | .unfound => .unfoundDim

theorem emf_find_set (m : Emf.VMap) (k q : List Nat) (v : Emf.LineKind) :
    Emf.VMap.find? (Emf.VMap.set m k v) q = if k = q then some v else Emf.VMap.find? m q := by
  induction m with
  | nil => rfl
  | cons p rest ih =>
    obtain ⟨k0, v0⟩ := p
    simp only [Emf.VMap.set]
    by_cases h0 : k0 = k
    · subst h0
      simp only [if_true, Emf.VMap.find?]
      split <;> rfl
    · simp only [h0, if_false, Emf.VMap.find?, ih]
      by_cases h : k0 = q
      · have : ¬ k = q := fun e => h0 (h.trans e.symm)
        simp [h, this]
      · simp [h]

theorem emf_find_none (m : Emf.VMap) (q : List Nat) :
    Emf.VMap.find? m q = none ↔ q ∉ m.map (·.1) := by
  induction m with
  | nil => simp [Emf.VMap.find?]
  | cons p rest ih =>
    obtain ⟨k0, v0⟩ := p
    simp only [Emf.VMap.find?, List.map_cons, List.mem_cons, not_or]
    by_cases h : k0 = q
    · simp [h]
    · have : ¬ q = k0 := fun e => h e.symm
      simp [h, this, ih]

theorem emf_keys_set (m : Emf.VMap) (k : List Nat) (v : Emf.LineKind) :
    (Emf.VMap.set m k v).map (·.1) = if k ∈ m.map (·.1) then m.map (·.1) else m.map (·.1) ++ [k] := by
  induction m with
  | nil => simp [Emf.VMap.set]
  | cons p rest ih =>
    obtain ⟨k0, v0⟩ := p
    simp only [Emf.VMap.set]
    by_cases h0 : k0 = k
    · simp [h0]
    · have : ¬ k = k0 := fun e => h0 e.symm
      simp only [h0, if_false, List.map_cons, ih, List.mem_cons, this, false_or]
      split <;> simp

structure VRel (m : Emf.VMap) (m' : EmfSpec.VMap) : Prop where
  look : ∀ k, Emf.VMap.find? m k = (m'.get k).map kconv
  nodup : (m.map (·.1)).Nodup

theorem VRel.nil : VRel [] [] := ⟨fun _ => rfl, List.nodup_nil⟩

theorem VRel.set {m : Emf.VMap} {m' : EmfSpec.VMap} (h : VRel m m') (k : List Nat) (v : Kind) :
    VRel (Emf.VMap.set m k (kconv v)) (m'.set k v) := by
  refine ⟨?_, ?_⟩
  · intro q
    rw [emf_find_set, get_set, h.look]
    split <;> rfl
  · rw [emf_keys_set]
    split
    · exact h.nodup
    · rename_i hk
      exact List.nodup_append.mpr ⟨h.nodup, by simp, by
        intro a ha b hb
        simp only [List.mem_singleton] at hb
        subst hb
        intro e; subst e; exact hk ha⟩

theorem VRel.look_cases {m : Emf.VMap} {m' : EmfSpec.VMap} (h : VRel m m') (k : Str) :
    (Emf.VMap.find? m k = none ∧ m'.get k = none) ∨
      ∃ v, Emf.VMap.find? m k = some (kconv v) ∧ m'.get k = some v := by
  rw [h.look]
  cases m'.get k with
  | none => exact .inl ⟨rfl, rfl⟩
  | some v => exact .inr ⟨v, rfl, rfl⟩

theorem kconv_eq_unfound (x : Option Kind) : x.map kconv = some .unfoundDim ↔ x = some .unfound := by
  cases x with
  | none => simp
  | some k => cases k <;> simp [kconv]

theorem emf_find_mem {m : Emf.VMap} (hn : (m.map (·.1)).Nodup) {kv : List Nat × Emf.LineKind} (h : kv ∈ m) :
    Emf.VMap.find? m kv.1 = some kv.2 := by
  induction m with
  | nil => cases h
  | cons p rest ih =>
    rw [List.map_cons, List.nodup_cons] at hn
    rcases List.mem_cons.mp h with rfl | h
    · simp [Emf.VMap.find?]
    · have : p.1 ≠ kv.1 := fun e => hn.1 (e ▸ List.mem_map_of_mem h)
      simp [Emf.VMap.find?, this, ih hn.2 h]

/-- the number of `UnfoundDimension` entries is the same: both maps have the same keys, once each on the operational
side, and a key is bound to `UnfoundDimension` in one iff in the other -/
theorem VRel.unfound_count {m : Emf.VMap} {m' : EmfSpec.VMap} (h : VRel m m') :
    (m.filter (fun kv => decide (kv.2 = Emf.LineKind.unfoundDim))).length =
    ((dedup (m'.map (·.1))).filter fun d => m'.get d == some Kind.unfound).length := by
  have hperm : (m.map (·.1)).Perm (dedup (m'.map (·.1))) := by
    rw [List.perm_ext_iff_of_nodup h.nodup (dedup_nodup _)]
    intro a
    rw [dedup_mem]
    exact Decidable.not_iff_not.mp (by rw [← emf_find_none, ← get_none, h.look, Option.map_eq_none_iff])
  rw [← (hperm.filter _).length_eq, List.filter_map, List.length_map]
  congr 1
  apply List.filter_congr
  intro kv hkv
  have := kconv_eq_unfound (m'.get kv.1)
  rw [← h.look, emf_find_mem h.nodup hkv] at this
  rw [Bool.eq_iff_iff, decide_eq_true_eq, Function.comp_apply, beq_iff_eq, ← this, Option.some.injEq]

theorem dimFind_eq (m : List Emf.DimEntry) (k : Emf.DimKey) :
    Emf.dimFind? m k = m.find? fun e => decide (e.key = k) := by
  induction m with
  | nil => rfl
  | cons e rest ih => simp only [Emf.dimFind?, List.find?_cons, ih]; split <;> simp_all

theorem dimFind_none (m : List Emf.DimEntry) (k : Emf.DimKey) :
    Emf.dimFind? m k = none ↔ k ∉ m.map (·.key) := by
  simp [dimFind_eq]

theorem dimFind_some {m : List Emf.DimEntry} {k : Emf.DimKey} {e : Emf.DimEntry}
    (h : Emf.dimFind? m k = some e) : e ∈ m ∧ e.key = k := by
  rw [dimFind_eq] at h
  exact ⟨List.mem_of_find?_eq_some h, by simpa using List.find?_some h⟩

theorem dimSet_absent (m : List Emf.DimEntry) (e : Emf.DimEntry) (h : e.key ∉ m.map (·.key)) :
    Emf.dimSet m e = m ++ [e] := by
  induction m with
  | nil => rfl
  | cons x rest ih =>
    simp only [List.map_cons, List.mem_cons, not_or] at h
    have : ¬ x.key = e.key := fun c => h.1 c.symm
    simp [Emf.dimSet, this, ih h.2]

theorem dimSet_present (m : List Emf.DimEntry) (e e0 : Emf.DimEntry) (h : Emf.dimFind? m e.key = some e0)
    (hi : e.index = e0.index) :
    (Emf.dimSet m e).map (·.key) = m.map (·.key) ∧
    ∀ x ∈ Emf.dimSet m e, x ∈ m ∨ (x.key = e0.key ∧ x.index = e0.index) := by
  induction m with
  | nil => simp [Emf.dimFind?] at h
  | cons x rest ih =>
    simp only [Emf.dimFind?] at h
    by_cases hx : x.key = e.key
    · simp only [hx, if_true, Option.some.injEq] at h
      subst h
      simp only [Emf.dimSet, hx, if_true, List.map_cons, true_and]
      intro y hy
      rcases List.mem_cons.mp hy with hy | hy
      · exact Or.inr ⟨by rw [hy], by rw [hy]; exact hi⟩
      · exact Or.inl (List.mem_cons_of_mem _ hy)
    · simp only [hx, if_false] at h
      obtain ⟨h1, h2⟩ := ih h
      simp only [Emf.dimSet, hx, if_false, List.map_cons, h1, true_and]
      intro y hy
      rcases List.mem_cons.mp hy with rfl | hy
      · exact Or.inl List.mem_cons_self
      · rcases h2 y hy with h | h
        · exact Or.inl (List.mem_cons_of_mem _ h)
        · exact Or.inr h

theorem valueString_frame (c : Emf.Consts) (name s : Str) :
    ∃ g, Emf.Frame g ∧ ∀ w, Emf.valueString c w name s = g (Emf.pushStringField w name s) := by
  cases h : c.validation.skipUnique
  · exact ⟨_, .validateString name, fun w => by simp [Emf.valueString, h]⟩
  · exact ⟨_, .id, fun w => by simp [Emf.valueString, h]⟩

/-- `validate_name` in the order the declarative model tests -/
theorem validateName_eq (c : Emf.Consts) (w : Emf.Writer) (name : Str) :
    Emf.validateName c w name =
      if (!c.validation.skipNames && name.isEmpty) = true then (w.err .nameEmpty, false)
      else if (!c.validation.skipNames && decide (name = awsName)) = true then (w.err .nameAws, false)
      else (w, true) := by
  unfold Emf.validateName
  cases c.validation.skipNames
  · simp only [Bool.not_false, Bool.true_and, if_true, decide_eq_true_eq]; rfl
  · rfl

/-- the name-map side: errors, flags, name map -/
structure SimV (w : Emf.Writer) (st : VState) : Prop where
  errs : w.errors = st.errs.map errKind
  ts : w.timestamp.isSome = st.tsSeen
  dims : w.entryDims.isSome = st.dimsSet
  split : w.allowSplit = st.split
  unr : w.unroutable = st.unroutable
  vmap : VRel w.vmap st.vmap

/-- the routing side: keys of `dimension_set_map` in insertion order, and their indexes -/
structure SimK (dm : List Emf.DimEntry) (keys : List Key) : Prop where
  ks : dm.map (·.key) = keys
  ix : ∀ e ∈ dm, e.index = indexOfKey e.key keys + 1

structure Sim (w : Emf.Writer) (st : VState) : Prop where
  v : SimV w st
  k : SimK w.st.dimMap st.keys

theorem SimV.err {w : Emf.Writer} {st : VState} (h : SimV w st) (e : Err) : SimV (w.err (errKind e)) (st.err e) := by
  refine ⟨?_, h.ts, h.dims, h.split, h.unr, h.vmap⟩
  simp [Emf.Writer.err, VState.err, h.errs]

theorem Sim.err {w : Emf.Writer} {st : VState} (h : Sim w st) (e : Err) : Sim (w.err (errKind e)) (st.err e) :=
  ⟨h.v.err e, h.k⟩

theorem SimV.setSt {w : Emf.Writer} {st : VState} (h : SimV w st) (s : Emf.State) : SimV { w with st := s } st :=
  ⟨h.errs, h.ts, h.dims, h.split, h.unr, h.vmap⟩

theorem SimV.setKeys {w : Emf.Writer} {st : VState} (h : SimV w st) (ks : List Key) : SimV w { st with keys := ks } :=
  ⟨h.errs, h.ts, h.dims, h.split, h.unr, h.vmap⟩

theorem SimK.present {dm : List Emf.DimEntry} {keys : List Key} (h : SimK dm keys) (e e0 : Emf.DimEntry)
    (hf : Emf.dimFind? dm e.key = some e0) (hi : e.index = e0.index) : SimK (Emf.dimSet dm e) keys := by
  obtain ⟨p1, p2⟩ := dimSet_present dm e e0 hf hi
  obtain ⟨hmem, _⟩ := dimFind_some hf
  refine ⟨p1.trans h.ks, ?_⟩
  intro x hx
  rcases p2 x hx with hx | ⟨hx1, hx2⟩
  · exact h.ix x hx
  · rw [hx1, hx2]; exact h.ix e0 hmem

theorem SimK.absent {dm : List Emf.DimEntry} {keys : List Key} (h : SimK dm keys) (e : Emf.DimEntry)
    (hk : e.key ∉ keys) (hi : e.index = keys.length + 1) : SimK (Emf.dimSet dm e) (keys ++ [e.key]) := by
  have hk' : e.key ∉ dm.map (·.key) := by rw [h.ks]; exact hk
  rw [dimSet_absent dm e hk']
  refine ⟨by simp [h.ks], ?_⟩
  intro x hx
  rcases List.mem_append.mp hx with hx | hx
  · have : x.key ∈ keys := by rw [← h.ks]; exact List.mem_map.mpr ⟨x, hx, rfl⟩
    rw [indexOfKey_append_mem _ _ _ this]; exact h.ix x hx
  · simp only [List.mem_singleton] at hx
    subst hx
    rw [indexOfKey_snoc _ _ hk, hi]

theorem SimK.route {w : Emf.Writer} {keys : List Key} (h : SimK w.st.dimMap keys) (c : Emf.Consts) (k : Key) :
    (Emf.dimEntryFor c w k).index = indexOfKey k (if k ∈ keys then keys else keys ++ [k]) + 1 ∧
      ∀ fb mb, SimK (Emf.dimSet w.st.dimMap { Emf.dimEntryFor c w k with fieldsBuf := fb, metricsBuf := mb })
        (if k ∈ keys then keys else keys ++ [k]) := by
  unfold Emf.dimEntryFor
  cases hf : Emf.dimFind? w.st.dimMap k with
  | some e0 =>
    obtain ⟨hmem, hkey⟩ := dimFind_some hf
    have hin : k ∈ keys := h.ks ▸ List.mem_map.mpr ⟨e0, hmem, hkey⟩
    simp only [hin, if_true]
    exact ⟨hkey ▸ h.ix e0 hmem, fun fb mb => h.present _ e0 (hkey ▸ hf) rfl⟩
  | none =>
    have hnin : k ∉ keys := h.ks ▸ (dimFind_none _ _).mp hf
    have hlen : w.st.dimMap.length = keys.length := by rw [← h.ks, List.length_map]
    simp only [hnin, if_false, indexOfKey_snoc _ _ hnin]
    exact ⟨congrArg (· + 1) hlen, fun fb mb => h.absent _ hnin (congrArg (· + 1) hlen)⟩

/-- the facts about the constants of `build()` the simulation needs -/
structure CRel (c : Emf.Consts) (cfg : Config) (sw : Switches) : Prop where
  su : c.validation.skipUnique = sw.skipUnique
  sd : c.validation.skipDimsExist = sw.skipDimsExist
  sn : c.validation.skipNames = sw.skipNames
  ai : c.allowIgnored = cfg.allowIgnored
  base : c.vmapBase = Emf.vmapBaseOf cfg.defaultDims

theorem CRel.ofConfig (cfg : Config) (sw : Switches) : CRel (Emf.Consts.ofConfig (toEmfCfg cfg sw)) cfg sw :=
  ⟨rfl, rfl, rfl, rfl, rfl⟩

theorem simV_entryDimsValidate {c : Emf.Consts} {cfg : Config} {sw : Switches} (hc : CRel c cfg sw)
    {w : Emf.Writer} {st : VState} (h : SimV w st) (d : Str) :
    SimV (Emf.entryDimsValidate c w d) (dimsStep sw st d) := by
  unfold Emf.entryDimsValidate dimsStep
  rcases h.vmap.look_cases d with ⟨e1, e2⟩ | ⟨k, e1, e2⟩ <;> simp only [e1, e2]
  · exact { h with vmap := h.vmap.set d .unfound }
  · cases k with
    | string | unfound => exact h
    | metric i =>
      simp only [kconv, hc.su]
      cases sw.skipUnique with
      | true => exact h
      | false => exact h.err (.duplicate d)

theorem sim_foldl_entryDims {c : Emf.Consts} {cfg : Config} {sw : Switches} (hc : CRel c cfg sw)
    (ds : List Str) {w : Emf.Writer} {st : VState} (h : Sim w st) :
    Sim (ds.foldl (Emf.entryDimsValidate c) w) (ds.foldl (dimsStep sw) st) := by
  induction ds generalizing w st with
  | nil => exact h
  | cons d ds ih =>
    have hk : (dimsStep sw st d).keys = st.keys := congrArg Frame.keys (dimsStep_frame sw st d).1
    exact ih ⟨simV_entryDimsValidate hc h.v d, by rw [(Emf.Frame.entryDimsValidate c d).st, hk]; exact h.k⟩

theorem simV_validateString {sw : Switches} (hsu : sw.skipUnique = false) {w : Emf.Writer} {st : VState}
    (h : SimV w st) (name : Str) :
    SimV (Emf.validateString w name) (stepString sw st name) := by
  unfold Emf.validateString stepString
  simp only [hsu, Bool.false_eq_true, if_false]
  rcases h.vmap.look_cases name with ⟨e1, e2⟩ | ⟨k, e1, e2⟩ <;> simp only [e1, e2]
  · exact { h with vmap := h.vmap.set name .string }
  · cases k with
    | string | metric i => exact h.err (.duplicate name)
    | unfound => exact { h with vmap := h.vmap.set name .string }

theorem simV_metricCheck {c : Emf.Consts} {cfg : Config} {sw : Switches} (hc : CRel c cfg sw)
    {w : Emf.Writer} {st : VState} (h : SimV w st) (name : Str) (index : Nat) :
    SimV (Emf.metricCheck c w name index) (mapStep sw st name index) := by
  unfold Emf.metricCheck mapStep
  rw [hc.su, h.unr, ← Bool.not_or]
  cases (sw.skipUnique || st.unroutable) with
  | true => exact h
  | false =>
    simp only [Bool.not_false, if_true, Bool.false_eq_true, if_false, Emf.validateMetric]
    rcases h.vmap.look_cases name with ⟨e1, e2⟩ | ⟨k, e1, e2⟩ <;> simp only [e1, e2]
    · exact { h with vmap := h.vmap.set name (.metric [index]) }
    · cases k with
      | string => exact h.err (.duplicate name)
      | unfound => exact h.err (.metricInDimension name)
      | metric idxs =>
        simp only [kconv, List.contains_eq_mem, decide_eq_true_eq]
        by_cases hm : index ∈ idxs
        · simp only [hm, if_true]; exact h.err (.duplicate name)
        · simp only [hm, if_false]
          exact { h with vmap := h.vmap.set name (.metric (index :: idxs)) }

theorem mapStep_keys (sw : Switches) (st : VState) (n : Str) (i : Nat) : (mapStep sw st n i).keys = st.keys :=
  congrArg Frame.keys (mapStep_frame sw st n i).1

theorem sim_valueMetric {c : Emf.Consts} {cfg : Config} {sw : Switches} (hc : CRel c cfg sw) (mult : Option Nat)
    {w : Emf.Writer} {st : VState} (h : Sim w st) (name : Str) (obs : List Emf.Obs) (m : Metric F) :
    Sim (Emf.valueMetric c mult w name obs m.unit m.dims (toEmfFlags m.flag)) (stepMetric cfg sw st name m) := by
  -- the per-metric-dimensions check
  have hv : SimV (Emf.metricPreCheck c w m.dims)
      (if ((routeOf cfg m).isSome && !st.split) = true then st.err (.perMetricDims name) else st) := by
    unfold Emf.metricPreCheck routeOf
    rw [hc.ai, h.v.split]
    cases (cfg.allowIgnored || m.dims.isEmpty) <;> cases st.split <;>
      first | exact h.v | exact h.v.err (.perMetricDims name)
  have hk : SimK (Emf.metricPreCheck c w m.dims).st.dimMap st.keys := by
    rw [(Emf.Frame.metricPreCheck c m.dims).st]; exact h.k
  rw [stepMetric_eq, routeStep_eq, Emf.valueMetric]
  generalize Emf.metricPreCheck c w m.dims = w1 at hv hk ⊢
  generalize (if ((routeOf cfg m).isSome && !st.split) = true then st.err (.perMetricDims name) else st) = st1 at hv ⊢
  -- routing, the name-map check at the index found, the write
  unfold Emf.valueMetricCore keysAfter idxOf routeOf
  rw [hc.ai]
  cases (cfg.allowIgnored || m.dims.isEmpty) with
  | true =>
    exact ⟨(simV_metricCheck hc (hv.setKeys _) name 0).setSt _, by
      simp only [mapStep_keys, Emf.metricGlobalWrite, (Emf.Frame.metricCheck c name 0).st, if_true]; exact hk⟩
  | false =>
    obtain ⟨hi, hs⟩ := hk.route c (sortKey m.dims)
    simp only [Bool.false_eq_true, if_false, dimKeyOf_eq_sortKey, hi]
    exact ⟨(simV_metricCheck hc (hv.setKeys _) name _).setSt _, by
      simp only [mapStep_keys, Emf.metricSplitWrite, (Emf.Frame.metricCheck c name _).st]; exact hs _ _⟩

theorem sim_valueString {c : Emf.Consts} {cfg : Config} {sw : Switches} (hc : CRel c cfg sw)
    {w : Emf.Writer} {st : VState} (h : Sim w st) (name s : Str) :
    Sim (Emf.valueString c w name s) (stepString sw st name) := by
  have hk : (stepString sw st name).keys = st.keys := congrArg Frame.keys (stepString_frame sw st name).1
  have hp : SimV (Emf.pushStringField w name s) st := h.v.setSt _
  unfold Emf.valueString
  rw [hc.su]
  cases hsu : sw.skipUnique with
  | true =>
    have : stepString sw st name = st := by simp [stepString, hsu]
    rw [this]
    exact ⟨hp, h.k⟩
  | false =>
    simp only [Bool.not_false, if_true]
    refine ⟨simV_validateString hsu hp name, ?_⟩
    rw [(Emf.Frame.validateString name).st, hk]
    exact h.k

theorem awsName_eq : (bytes! "_aws") = awsName := rfl

theorem sim_applyItem {c : Emf.Consts} {cfg : Config} {sw : Switches} (hc : CRel c cfg sw)
    (ops : FloatOps F) (txt : F → List Nat) (mult : Option Nat)
    {w : Emf.Writer} {st : VState} (h : Sim w st) (it : Item F) :
    Sim (Emf.applyItem c mult w (toEmfItem ops txt it)) (stepItem cfg sw st it) := by
  cases it with
  | timestamp t =>
    simp only [toEmfItem, Emf.applyItem, stepItem]
    have base : Sim { w with timestamp := some t } { st with tsSeen := true } :=
      ⟨⟨h.v.errs, rfl, h.v.dims, h.v.split, h.v.unr, h.v.vmap⟩, h.k⟩
    rw [h.v.ts]
    cases st.tsSeen with
    | true => exact base.err .multipleTimestamps
    | false => exact base
  | allowSplit => exact ⟨⟨h.v.errs, h.v.ts, h.v.dims, rfl, h.v.unr, h.v.vmap⟩, h.k⟩
  | otherCfg => exact h
  | allowUnroutable => exact ⟨⟨h.v.errs, h.v.ts, h.v.dims, h.v.split, rfl, h.v.vmap⟩, h.k⟩
  | entryDims sets =>
    have he : w.st.dimMap.isEmpty = st.keys.isEmpty := by rw [← h.k.ks]; simp
    simp only [toEmfItem, Emf.applyItem, stepItem, Emf.configEntryDims, he, h.v.dims, hc.su, hc.sd]
    by_cases h1 : (!st.keys.isEmpty) = true
    · simp only [if_pos h1]; exact h.err .dimsLate
    by_cases h2 : st.dimsSet = true
    · simp only [if_neg h1, if_pos h2]; exact h.err .dimsTwice
    by_cases h3 : sets.isEmpty = true
    · simp only [if_neg h1, if_neg h2, if_pos h3]; exact h.err .dimsEmpty
    simp only [if_neg h1, if_neg h2, if_neg h3]
    have hw : Sim (if (!sw.skipUnique || !sw.skipDimsExist) = true then
          sets.flatten.foldl (Emf.entryDimsValidate c) w else w)
        (if (!sw.skipUnique || !sw.skipDimsExist) = true then sets.flatten.foldl (dimsStep sw) st else st) := by
      cases (!sw.skipUnique || !sw.skipDimsExist) with
      | false => exact h
      | true => exact sim_foldl_entryDims hc _ h
    exact ⟨⟨hw.v.errs, hw.v.ts, rfl, hw.v.split, hw.v.unr, hw.v.vmap⟩, hw.k⟩
  | value name v =>
    simp only [toEmfItem, Emf.applyItem, stepItem, Emf.value, validateName_eq, hc.sn]
    by_cases h1 : (!sw.skipNames && name.isEmpty) = true
    · simp only [h1, if_true]; exact h.err .emptyName
    by_cases h2 : (!sw.skipNames && decide (name = awsName)) = true
    · simp only [h1, h2, if_true]; exact h.err .awsName
    simp only [h1, h2]
    cases v with
    | str s => exact sim_valueString hc h name s
    | metric m => exact sim_valueMetric hc mult h name _ m
    | error => exact h.err (.valueError name)
    | nothing => exact h

theorem sim_foldl {c : Emf.Consts} {cfg : Config} {sw : Switches} (hc : CRel c cfg sw)
    (ops : FloatOps F) (txt : F → List Nat) (mult : Option Nat) (e : Entry F)
    {w : Emf.Writer} {st : VState} (h : Sim w st) :
    Sim ((toEmfEntry ops txt e).foldl (Emf.applyItem c mult) w) (run cfg sw st e) := by
  induction e generalizing w st with
  | nil => exact h
  | cons it e ih =>
    simp only [toEmfEntry, List.map_cons, List.foldl_cons, run]
    exact ih (sim_applyItem hc ops txt mult h it)

theorem vrel_base (dims : List Str) :
    VRel (dims.foldl (fun m d => match Emf.VMap.find? m d with
        | some _ => m
        | none => Emf.VMap.set m d .unfoundDim) []) (dims.foldl insertUnfound []) := by
  suffices ∀ (m : Emf.VMap) (m' : EmfSpec.VMap), VRel m m' →
      VRel (dims.foldl (fun m d => match Emf.VMap.find? m d with
        | some _ => m
        | none => Emf.VMap.set m d .unfoundDim) m) (dims.foldl insertUnfound m') from this [] [] VRel.nil
  induction dims with
  | nil => intro m m' h; exact h
  | cons d ds ih =>
    intro m m' h
    simp only [List.foldl_cons]
    apply ih
    unfold insertUnfound
    rcases h.look_cases d with ⟨e1, e2⟩ | ⟨k, e1, e2⟩ <;> simp only [e1, e2]
    · exact h.set d .unfound
    · exact h

theorem sim_start {c : Emf.Consts} {cfg : Config} {sw : Switches} (hc : CRel c cfg sw) (s : Emf.State) :
    Sim (Emf.Writer.start c s) (initState cfg sw) := by
  refine ⟨⟨rfl, rfl, rfl, rfl, rfl, ?_⟩, ⟨rfl, by intro e he; simp [Emf.Writer.start, Emf.State.startCall] at he⟩⟩
  simp only [Emf.Writer.start, initState, initMap, hc.sd, hc.base, Emf.vmapBaseOf]
  cases sw.skipDimsExist with
  | true => exact VRel.nil
  | false => exact vrel_base _

theorem finishErrors_eq {c : Emf.Consts} {cfg : Config} {sw : Switches} (hc : CRel c cfg sw)
    {w : Emf.Writer} {st : VState} (h : Sim w st) :
    Emf.finishErrors c w = (st.errs ++ sweep sw st).map errKind := by
  unfold Emf.finishErrors sweep
  rw [hc.sd, h.v.unr, ← Bool.not_or]
  cases (sw.skipDimsExist || st.unroutable) with
  | true => simp [h.v.errs]
  | false =>
    simp only [Bool.not_false, if_true, Bool.false_eq_true, if_false, List.map_append, h.v.errs, List.map_map]
    congr 1
    exact (List.map_const' ..).trans
      ((congrArg (List.replicate · _) h.v.vmap.unfound_count).trans (List.map_const' ..).symm)

/-- the error list the operational model's `finish` computes, for ANY formatter state `s` (the
validation state does not survive a call) -/
theorem finishErrors_refines (cfg : Config) (sw : Switches) (ops : FloatOps F) (txt : F → List Nat)
    (s : Emf.State) (mult : Option Nat) (e : Entry F) :
    Emf.finishErrors (Emf.Consts.ofConfig (toEmfCfg cfg sw))
      ((toEmfEntry ops txt e).foldl (Emf.applyItem (Emf.Consts.ofConfig (toEmfCfg cfg sw)) mult)
        (Emf.Writer.start (Emf.Consts.ofConfig (toEmfCfg cfg sw)) s))
      = (validate cfg sw e).map errKind :=
  have hc := CRel.ofConfig cfg sw
  finishErrors_eq hc (sim_foldl hc ops txt mult e (sim_start hc s))

end EmfRefine

#print axioms EmfRefine.finishErrors_refines
