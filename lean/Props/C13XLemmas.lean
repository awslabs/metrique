import Props.C13Lemmas
/-!
The slot invariants in the form that is proved: `SlotOkX` / `SInvX` are `SlotOk` / `SInv` (`Props/C13Lemmas.lean`) weakened
for slots whose guard's drop panicked in `close()` (`failed`, set only by the extended model): such a guard is gone
without having sent, its receiver may have observed the hang-up, and the "wait mode ⇒ sent before the close" clause does
not apply to it.  Here: what each slot operation does to `SlotOkX`, and `SInvX` is preserved by every event of the base
model (`sinvX_step`, from `Inv` alone, no reachability needed).  The new events of `Model/KeepAliveX.lean` are in
`Props/C13X.lean`; on a state without failed slots these are the base invariants (`sinv_of_sinvX`, `Props/C13.lean`).
-/
namespace KeepAlive
variable {cfg : List (Bool × Nat)} {s s' : St}

/-- consistency of one slot; `sentOk` = the guard's `tx.send` happened before this field was closed -/
structure SlotOkX (sl : Slot) : Prop where
  unopened : sl.opened = false → sl.g = .none
  nothing : sl.sentOk = false → sl.cell = none ∧ sl.data = none
  sentg : sl.sentOk = true → sl.g ≠ .live ∧ sl.opened = true
  /-- the receiver stays in place until the value arrives or the field is closed (a cancelled wait does not remove it) -/
  rxstays : sl.closedAs = none → sl.sentOk = false → sl.failed = false → sl.rx = true
  /-- a sent value is in the channel, or has been moved to `data` by a completed `wait_for_data` -/
  delivered : sl.closedAs = none → sl.sentOk = true →
    (sl.cell = some sl.gval ∧ sl.rx = true ∧ sl.data = none) ∨ (sl.data = some sl.gval ∧ sl.rx = false ∧ sl.cell = none)
  gone : sl.opened = true → sl.g ≠ .live → sl.sentOk = true ∨ sl.closedAs.isSome ∨ sl.failed = true
  /-- `Slot::close` returned the sent value iff the send came first -/
  closed : ∀ r, sl.closedAs = some r → r = if sl.sentOk then some sl.gval else none
  afterclose : sl.closedAs.isSome → sl.cell = none ∧ sl.data = none ∧ sl.rx = false
  /-- a guard whose drop panicked in `close()` is gone and has sent nothing -/
  failedg : sl.failed = true → sl.g ≠ .live ∧ sl.opened = true ∧ sl.sentOk = false

structure SInvX (s : St) : Prop where
  ok : ∀ sl ∈ s.slots, SlotOkX sl
  /-- fields are closed only inside the entry's destructor, i.e. after the conditions of C06 -/
  g0 : (∃ sl ∈ s.slots, sl.closedAs.isSome) → s.hS = 0 ∧ (s.fgLive = 0 ∨ s.dgBegun > 0)
  /-- a wait-mode slot that was closed before any force-flush guard began to drop had been sent first -/
  g1 : ∀ sl ∈ s.slots, sl.closedAs.isSome → sl.opened = true → sl.mode = .wait → s.dgBegun = 0 → sl.failed = false → sl.sentOk = true

theorem slotOkX_fresh (c : Bool × Nat) : SlotOkX (fresh c) := by
  constructor <;> simp [fresh]

theorem sinvX_init (cfg : List (Bool × Nat)) : SInvX (init (cfg.map fresh)) := by
  constructor
  · intro sl h; obtain ⟨c, _, rfl⟩ := List.mem_map.mp h; exact slotOkX_fresh _
  · rintro ⟨sl, h, hc⟩; obtain ⟨c, _, rfl⟩ := List.mem_map.mp h; simp [fresh] at hc
  · intro sl h hc; obtain ⟨c, _, rfl⟩ := List.mem_map.mp h; simp [fresh] at hc

theorem not_sent_of_live {sl : Slot} (h : SlotOkX sl) (hg : sl.g = .live) : sl.sentOk = false := by
  cases hso : sl.sentOk with
  | false => rfl
  | true => exact absurd hg (h.sentg hso).1

theorem opened_of_live {sl : Slot} (h : SlotOkX sl) (hg : sl.g = .live) : sl.opened = true := by
  cases ho : sl.opened with
  | true => rfl
  | false => rw [h.unopened ho] at hg; cases hg

theorem slotOkX_closeSlot1 {sl : Slot} (h : SlotOkX sl) (hn : sl.closedAs = none) : SlotOkX (closeSlot1 sl) :=
  { h with
    nothing := fun _ => ⟨rfl, rfl⟩
    rxstays := nofun
    delivered := nofun
    gone := fun _ _ => Or.inr (Or.inl rfl)
    closed := fun r hr => by
      cases hr
      have := h.nothing; have := h.delivered hn
      simp only [closeSlot1, closeVal]; grind
    afterclose := fun _ => ⟨rfl, rfl, rfl⟩ }

theorem slotOkX_poll {sl : Slot} (h : SlotOkX sl) : SlotOkX (poll sl).1 := by
  unfold poll
  split
  · rename_i hrx
    split
    · -- a value is in the channel: it was sent and not yet closed, and moves to `data`
      rename_i v hc
      have hs : sl.sentOk = true := by
        cases hs : sl.sentOk with
        | true => rfl
        | false => rw [(h.nothing hs).1] at hc; cases hc
      have hcl : sl.closedAs = none := by
        cases hcl : sl.closedAs with
        | none => rfl
        | some r => rw [(h.afterclose (by simp [hcl])).1] at hc; cases hc
      have hd := h.delivered hcl hs
      exact { h with
        nothing := fun hn => absurd (hs.symm.trans hn) nofun
        rxstays := fun _ hn => absurd (hs.symm.trans hn) nofun
        delivered := fun _ _ => Or.inr (by simp_all)
        afterclose := fun hc' => absurd hc' (by simp [hcl]) }
    · split
      · exact h
      · -- the sender is gone without having sent
        rename_i hc hs
        simp only [senderAlive, Bool.or_eq_true, Bool.not_eq_true', decide_eq_true_eq, not_or] at hs
        have ho : sl.opened = true := by simpa using hs.1
        exact { h with
          nothing := fun hn => ⟨hc, rfl⟩
          rxstays := fun hcl hn hf => by
            have := h.gone ho hs.2; simp_all
          delivered := fun hcl hn => by have := h.delivered hcl hn; simp_all
          afterclose := fun hc' => by have := h.afterclose hc'; simp_all }
  · exact h

theorem slotOkX_open {sl : Slot} (h : SlotOkX sl) (hc : sl.closedAs = none) (ho : ¬sl.opened = true) (m : Mode) (v : Nat) :
    SlotOkX { sl with opened := true, g := .live, mode := m, gval := v } :=
  have hns : sl.sentOk = false := Bool.eq_false_iff.2 fun hs => ho (h.sentg hs).2
  { h with
    unopened := nofun
    sentg := fun hs => absurd (hns ▸ hs) nofun
    delivered := fun _ hs => absurd (hns ▸ hs) nofun
    gone := fun _ hg => absurd rfl hg
    closed := fun _ hr => absurd (hc ▸ hr) nofun
    failedg := fun hf => absurd (h.failedg hf).2.1 ho }

theorem slotOkX_gmut {sl : Slot} (h : SlotOkX sl) (hg : sl.g = .live) (v : Nat) : SlotOkX { sl with gval := v } :=
  have hns := not_sent_of_live h hg
  { h with
    delivered := fun _ hs => absurd (hns ▸ hs) nofun
    closed := fun r hr => by simpa [hns] using h.closed r hr }

theorem slotOkX_gSend {sl : Slot} (h : SlotOkX sl) (hg : sl.g = .live) :
    SlotOkX { sl with g := .sent, cell := if sl.rx then some sl.gval else none, sentOk := sl.closedAs.isNone } :=
  have hns := not_sent_of_live h hg
  have hnf : sl.failed = false := Bool.eq_false_iff.2 fun hf => (h.failedg hf).1 hg
  have hn := h.nothing hns
  have hop := opened_of_live h hg
  { h with
    unopened := fun ho => absurd (hop.symm.trans ho) nofun
    nothing := fun hc => by have := h.afterclose (by cases hc' : sl.closedAs <;> simp_all); simp [this]
    sentg := fun _ => ⟨nofun, hop⟩
    rxstays := fun hc hs => by dsimp only at hc hs; simp [hc] at hs
    delivered := fun hc _ => Or.inl (by simp [h.rxstays hc hns hnf, hn.2])
    gone := fun _ _ => by cases sl.closedAs <;> simp
    closed := fun r hr => by dsimp only at hr ⊢; simpa [hr, hns] using h.closed r hr
    afterclose := fun hc => by simp [h.afterclose hc]
    failedg := fun hf => absurd (hnf ▸ hf) nofun }

theorem slotOkX_gRelease {sl : Slot} (h : SlotOkX sl) (hg : sl.g = .sent) : SlotOkX { sl with g := .none } :=
  { h with
    unopened := fun _ => rfl
    sentg := fun hs => ⟨nofun, (h.sentg hs).2⟩
    gone := fun ho _ => h.gone ho (by simp [hg])
    failedg := fun hf => ⟨nofun, (h.failedg hf).2⟩ }

theorem sinvX_same_slots (h : SInvX s) (hs : s'.slots = s.slots)
    (hf : 0 < s.hS ∨ (s'.hS = s.hS ∧ s'.fgLive ≤ s.fgLive)) (hd : s.dgBegun ≤ s'.dgBegun) : SInvX s' := by
  obtain ⟨h1, h2, h3⟩ := h
  constructor
  · rw [hs]; exact h1
  · rw [hs]; intro hc
    obtain ⟨a, b⟩ := h2 hc
    omega
  · rw [hs]; intro sl hsl hc ho hm hd0 hf0
    exact h3 sl hsl hc ho hm (by omega) hf0

theorem sinvX_dropFG (hs : SInvX s) : SInvX (dropFG s) :=
  sinvX_same_slots hs (by simp [dropFG]) (Or.inr (by simp [dropFG])) (by simp [dropFG])

theorem sinvX_setSlot {i : Nat} {sl : Slot} {f : Slot → Slot} (b : Option Nat) (h : SInvX s)
    (hsl : s.slots[i]? = some sl) (hok : SlotOkX (f sl)) (hc : (f sl).closedAs = sl.closedAs)
    (hg1 : (f sl).closedAs.isSome → (f sl).opened = true → (f sl).mode = .wait → s.dgBegun = 0 →
      (f sl).failed = false → (f sl).sentOk = true) :
    SInvX { setSlot s i f with borrowed := b } := by
  obtain ⟨h1, h2, h3⟩ := h
  have hmem := List.mem_of_getElem? hsl
  constructor
  · intro x hx
    rcases mem_modifyAt hx with hx | ⟨a, ha, rfl⟩
    · exact h1 x hx
    · rw [hsl] at ha; cases ha; exact hok
  · rintro ⟨x, hx, hxc⟩
    apply h2
    rcases mem_modifyAt hx with hx | ⟨a, ha, rfl⟩
    · exact ⟨x, hx, hxc⟩
    · rw [hsl] at ha; cases ha; exact ⟨sl, hmem, by rw [← hc]; exact hxc⟩
  · intro x hx
    rcases mem_modifyAt hx with hx | ⟨a, ha, rfl⟩
    · exact h3 x hx
    · rw [hsl] at ha; cases ha; exact hg1

theorem not_closed_of_usableX (h : SInvX s) (hu : ownerUsable s = true) {sl : Slot} (hm : sl ∈ s.slots) :
    sl.closedAs = none := by
  cases hc : sl.closedAs with
  | none => rfl
  | some r =>
    have := (h.g0 ⟨sl, hm, by simp [hc]⟩).1
    have := (ownerUsable_iff.1 hu).1
    omega

theorem sinvX_wait {i : Nat} {sl : Slot} (b : Option Nat) (hs : SInvX s) (hsl : s.slots[i]? = some sl) :
    SInvX { setSlot s i (fun _ => (poll sl).1) with borrowed := b } := by
  obtain ⟨p1, p2, p3, p4, -, -, p7⟩ := poll_same sl
  refine sinvX_setSlot b hs hsl (slotOkX_poll (hs.ok sl (List.mem_of_getElem? hsl))) p1 ?_
  rw [p1, p2, p3, p4, p7]
  exact hs.g1 sl (List.mem_of_getElem? hsl)

theorem sinvX_closeSlot (hi : Inv s) (hs : SInvX s) (ha : anyApp s = true) {l : List Slot}
    (hl : closeFirst s.slots = some l) : SInvX { s with slots := l } := by
  obtain ⟨hh0, hcond⟩ := anyApp_cond_inv hi ha
  constructor
  · intro x hx
    rcases mem_closeFirst hl hx with hx | ⟨a, ha1, ha2, rfl⟩
    · exact hs.ok x hx
    · exact slotOkX_closeSlot1 (hs.ok a ha1) ha2
  · intro _; exact ⟨hh0, hcond⟩
  · intro x hx hc ho hm hd0
    rcases mem_closeFirst hl hx with hx | ⟨a, ha1, ha2, rfl⟩
    · exact hs.g1 x hx hc ho hm hd0
    · -- no force-flush drop has begun, so no flush guard is left: the wait-mode guard of `a` is gone
      simp only [closeSlot1] at ho hm ⊢
      have hf : s.fgLive = 0 := by simp only at hd0; omega
      have hg : a.g = .none := Classical.byContradiction fun hg => by
        obtain ⟨k, hk⟩ := List.getElem?_of_mem ha1
        have := held_pos hk hg hm; have := hi.heldle; omega
      have := (hs.ok a ha1).gone ho (by simp [hg])
      intro hf0
      simp only [ha2, Option.isSome_none, Bool.false_eq_true, false_or] at this
      rcases this with h | h
      · exact h
      · rw [hf0] at h; cases h

theorem sinvX_step {e : Ev} (hi : Inv s) (hs : SInvX s) (h : step s e = some s') : SInvX s' := by
  have hfr := step_frame h
  have hsame : s'.slots = s.slots → SInvX s' := fun h =>
    sinvX_same_slots hs h (hfr.1.imp_right fun h => ⟨h.1, h.2.2.2.2⟩) hfr.2.1
  cases step_cases h with
  | «open» i m v0 sl hsl hu hno =>
    have hm := List.mem_of_getElem? hsl
    have hcl := not_closed_of_usableX hs hu.1 hm
    exact sinvX_setSlot _ hs hsl (slotOkX_open (hs.ok sl hm) hcl hno _ _) rfl (by simp [hcl])
  | waitBegin i sl hsl | waitPoll i sl _ hsl => exact sinvX_wait _ hs hsl
  | delay i sl hsl hg =>
    have hm := List.mem_of_getElem? hsl
    refine sinvX_setSlot _ hs hsl { hs.ok sl hm with } rfl fun hcl _ _ hd0 => ?_
    have := (hs.g0 ⟨sl, hm, hcl⟩).2
    omega
  | gmut i v sl hsl hg =>
    have hm := List.mem_of_getElem? hsl
    exact sinvX_setSlot _ hs hsl (slotOkX_gmut (hs.ok sl hm) hg v) rfl (hs.g1 sl hm)
  | gSend i sl hsl hg =>
    have hm := List.mem_of_getElem? hsl
    refine sinvX_setSlot _ hs hsl (slotOkX_gSend (hs.ok sl hm) hg) rfl fun hcl _ hw hd0 => ?_
    -- closed in wait mode with the guard alive: it held a flush guard, so a force-flush drop had begun
    simp only at hcl hw
    have hf := (hs.g0 ⟨sl, hm, hcl⟩).2
    have h1 := held_pos hsl (by simp [hg]) hw
    have h3 := hi.heldle
    omega
  | gRelease i sl hsl hg =>
    have hm := List.mem_of_getElem? hsl
    exact sinvX_setSlot _ hs hsl (slotOkX_gRelease (hs.ok sl hm) hg) rfl (hs.g1 sl hm)
  | gReleaseWait i sl hsl hg =>
    have hm := List.mem_of_getElem? hsl
    exact sinvX_dropFG (sinvX_setSlot _ hs hsl (slotOkX_gRelease (hs.ok sl hm) hg) rfl (hs.g1 sl hm))
  | closeSlot l ha hl => exact sinvX_closeSlot hi hs ha hl
  | fgDrop | dgDec | pDecG | openAgainWait | delayAgain => exact hsame (by simp [dropFG])
  | _ => exact hsame rfl

end KeepAlive
