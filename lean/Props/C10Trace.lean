import Props.C10
/-!
# C10 — the trace predicate is sound for the model

`Spec.traceOk` (evaluated by the driver on the aggregates emitted by real timed / multi-producer
runs, whose flush boundaries are unknown) accepts every run of the model: for every operation
sequence that ends flushed, the totals over all emitted aggregates are the totals over all inputs.
-/
namespace Aggregation

section
variable {κ : Type} [DecidableEq κ]

def closeP (p : κ × Accum) : κ × Closed := (p.1, close p.2)

theorem filter_key_nil {β : Type} (l : List (κ × β)) (k : κ) (h : k ∉ l.map (·.1)) :
    l.filter (fun p => p.1 = k) = [] := by
  simp only [List.filter_eq_nil_iff, decide_eq_true_eq]
  rintro q hq rfl
  exact h (List.mem_map_of_mem hq)

theorem filter_key_singleton {β : Type} (l : List (κ × β)) (k : κ) (a : β) (hnd : (l.map (·.1)).Nodup)
    (hm : (k, a) ∈ l) : l.filter (fun p => p.1 = k) = [(k, a)] := by
  induction l with
  | nil => cases hm
  | cons p rest ih =>
    obtain ⟨hp, hnd⟩ := List.nodup_cons.mp hnd
    rw [List.filter_cons]
    rcases List.mem_cons.mp hm with rfl | h
    · rw [filter_key_nil rest k hp]; simp
    · have : p.1 ≠ k := by rintro rfl; exact hp (List.mem_map_of_mem (f := (·.1)) h)
      simpa [this] using ih hnd h

theorem sumOver_epoch (key : Input → κ) (E : List Input) (aggs : List (κ × Accum))
    (hx : Explains callStrat key E aggs) (k : κ) (f : Closed → Nat) (F : List Input → Nat)
    (hF : ∀ l, f (close (foldAll callStrat l)) = F l) (hF0 : F [] = 0) :
    Spec.sumOver k (aggs.map closeP) f = F (group key k E) := by
  unfold Spec.sumOver
  have hfm : (aggs.map closeP).filter (fun p => p.1 = k) = (aggs.filter (fun p => p.1 = k)).map closeP := by
    rw [List.filter_map]; rfl
  rw [hfm]
  by_cases hk : k ∈ aggs.map (·.1)
  · obtain ⟨⟨k, a⟩, hp, rfl⟩ := List.mem_map.mp hk
    rw [filter_key_singleton aggs k a hx.nodup hp]
    simp [closeP, hx.value k a hp, hF]
  · rw [filter_key_nil aggs k hk]
    have : group key k E = [] := by
      rw [group_eq_nil_iff]
      exact fun h => hk ((hx.keys k).mpr h)
    simp [this, hF0]

theorem sumOver_epochs (key : Input → κ) (k : κ) (f : Closed → Nat) (F : List Input → Nat)
    (hF : ∀ l, f (close (foldAll callStrat l)) = F l) (hF0 : F [] = 0)
    (hadd : ∀ a b, F (a ++ b) = F a + F b) (Z : List (List Input × List (κ × Accum)))
    (hx : ∀ p ∈ Z, Explains callStrat key p.1 p.2) :
    Spec.sumOver k ((Z.map Prod.snd).flatten.map closeP) f = F (group key k (Z.map Prod.fst).flatten) := by
  induction Z with
  | nil => simp [Spec.sumOver, group, hF0]
  | cons p Z ih =>
    have h1 := sumOver_epoch key p.1 p.2 (hx p (by simp)) k f F hF hF0
    have h2 := ih fun q hq => hx q (by simp [hq])
    simp only [List.map_cons, List.flatten_cons, List.map_append, group_append, hadd]
    rw [← h1, ← h2]
    simp [Spec.sumOver, List.filter_append]

theorem sumOver_run (key : Input → κ) (ops : List (Op Input)) (hflushed : (epochs {} ops).cur = [])
    (k : κ) (f : Closed → Nat) (F : List Input → Nat)
    (hF : ∀ l, f (close (foldAll callStrat l)) = F l) (hF0 : F [] = 0)
    (hadd : ∀ a b, F (a ++ b) = F a + F b) :
    Spec.sumOver k ((krun callStrat key {} ops).emitted.flatten.map closeP) f
      = F (group key k (inputsOf ops)) := by
  obtain ⟨c1, c2, -⟩ := c10_conservation callStrat key ops
  have hin := (c10_epochs_partition ops).1
  rw [hflushed, List.append_nil] at hin
  have := sumOver_epochs key k f F hF hF0 hadd _ c2
  rwa [List.map_fst_zip (Nat.le_of_eq c1.symm), List.map_snd_zip (Nat.le_of_eq c1), hin] at this

end

theorem sum_map_append {β : Type} (f : β → Nat) (a b : List β) :
    ((a ++ b).map f).sum = (a.map f).sum + (b.map f).sum := by simp

/-- **C10, trace predicate.** For every key function and every operation sequence on a keyed
aggregator of the harness struct that ends flushed (nothing held), `Spec.traceOk` accepts the
inputs together with *all* emitted aggregates, closed, in emission order. -/
theorem c10_trace_sound {κ : Type} [DecidableEq κ] (key : Input → κ) (ops : List (Op Input))
    (hflushed : (epochs {} ops).cur = []) :
    Spec.traceOk key (inputsOf ops)
      ((krun callStrat key {} ops).emitted.flatten.map fun p => (p.1, close p.2)) = true := by
  have total := sumOver_run key ops hflushed
  unfold Spec.traceOk
  rw [List.all_eq_true]
  intro k _
  have hb := total k (·.bytes) (fun l => (l.map (·.bytes)).sum)
    (fun l => by exact (c10_fields l).1) rfl (sum_map_append _)
  have ho := total k (·.opt) (fun l => (l.filterMap (·.opt)).sum)
    (fun l => by exact (c10_fields l).2.2.2.1) rfl (fun a b => by simp)
  have hi := total k (·.inner) (fun l => (l.map (·.inner)).sum)
    (fun l => by exact (c10_fields l).2.2.2.2) rfl (sum_map_append _)
  have hd v := total k (fun c => occ v c.dist) (fun l => (l.flatMap fun e => expandObs e.obs).count v)
    (fun l => (c10_distribution_counts _ v).trans (congrArg (List.count v) (c10_fields l).2.2.1)) rfl
    (fun a b => by simp [List.flatMap_append, List.count_append])
  simp only [Spec.keyOk, Spec.inputsOf, Bool.and_eq_true, beq_iff_eq, List.all_eq_true]
  exact ⟨⟨⟨hb, ho⟩, hi⟩, fun v _ => hd v⟩

/-- non-vacuity: the predicate accepts a conserving trace split over two flushes and rejects one
that lost an observation -/
example :
    (epochs {} [Op.merge exA, .flush, .merge exB, .flush]).cur = [] ∧
    Spec.traceOk (·.key) [exA, exB]
      [(⟨[97], 1⟩, { bytes := 3, last := some 4, dist := [(5, 3)], opt := 0, inner := 7 }),
       (⟨[97], 1⟩, { bytes := 2, last := some 9, dist := [], opt := 4, inner := 1 })] = true ∧
    Spec.traceOk (·.key) [exA, exB]
      [(⟨[97], 1⟩, { bytes := 5, last := some 9, dist := [(5, 2)], opt := 4, inner := 8 })] = false := by
  decide

end Aggregation

#print axioms Aggregation.c10_trace_sound
