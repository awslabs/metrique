import Props.C19
import Mathlib.Algebra.Order.Field.Rat
import Mathlib.Tactic.Linarith
import Mathlib.Tactic.Positivity
import Mathlib.Tactic.Ring
/-!
# C19, the binary64 side, as inequalities between rationals

* `c19_rne_rel_err`: `rne` (the model's round-to-nearest-even, `Model/Units.lean`) is within `2⁻⁵³`
  relative of the fraction — derived from the cross-multiplied `Nat` form `c19_rneAt_nat_form`.
* `c19_f64_ratio` / `c19_f64_ratio_generated`: every `RATIO` constant, of the model and of the
  regenerated tables (`c19_generated_ratios_are_model`: they are the same 435 fractions).
* `Near`, `eps`: the standard model of floating-point rounding over ℚ; `c19_f64_convert_error`,
  `c19_f64_compose`, `c19_f64_inverse`, `c19_f64_roundtrip`, `c19_f64_nested`: explicit error bounds
  for the binary64 twin of one conversion, of A→B→C against A→C, of inverse pairs, of the round
  trip and of any tower of wrappers. Their hypotheses (`Near u z (x * r̂)`: the product is correctly
  rounded) are IEEE-754's; `c19_bound_check_sound` says what the driver's exact evaluation of the
  conclusion on real outputs (`bound` requests) establishes without that assumption.

This file imports single Mathlib modules; the model files stay import-free.
-/
namespace Units

/-- the rational a positive binary64 `(m, e)` stands for -/
def f64Val (m : Nat) (e : Int) : ℚ := (m : ℚ) * (2 : ℚ) ^ e

/-- unit roundoff of binary64 -/
def u : ℚ := 1 / 2 ^ 53

/-- `x` approximates `y` with relative error at most `ε` -/
def Near (ε x y : ℚ) : Prop := |x - y| ≤ ε * |y|

/-- the relative error accumulated by `k` roundings: `(1+u)^k − 1` -/
def eps (k : Nat) : ℚ := (1 + u) ^ k - 1

theorem u_pos : 0 < u := by unfold u; positivity

theorem eps_nonneg (k : Nat) : 0 ≤ eps k := by
  unfold eps
  have : (1 : ℚ) ≤ (1 + u) ^ k := one_le_pow₀ (by have := u_pos; linarith)
  linarith

theorem eps_one : eps 1 = u := by simp [eps]

theorem eps_add (i j : Nat) : eps i + eps j + eps i * eps j = eps (i + j) := by
  unfold eps; rw [pow_add]; ring

theorem near_of_eq {x y : ℚ} (ε : ℚ) (hε : 0 ≤ ε) (h : x = y) : Near ε x y := by
  unfold Near; rw [h, sub_self, abs_zero]; positivity

theorem near_mono {ε ε' x y : ℚ} (h : Near ε x y) (hle : ε ≤ ε') : Near ε' x y := by
  unfold Near at *
  exact h.trans (mul_le_mul_of_nonneg_right hle (abs_nonneg _))

theorem near_mul_const {ε x y : ℚ} (h : Near ε x y) (c : ℚ) : Near ε (x * c) (y * c) := by
  unfold Near at *
  rw [← sub_mul, abs_mul, abs_mul, ← mul_assoc]
  exact mul_le_mul_of_nonneg_right h (abs_nonneg c)

theorem near_one {x y : ℚ} (h : Near u x y) : Near (eps 1) x y := eps_one ▸ h

theorem near_iff_div {ε x q : ℚ} (hq : 0 < q) : Near ε x q ↔ |x - q| / q ≤ ε := by
  rw [Near, abs_of_pos hq, div_le_iff₀ hq]

theorem two_zpow_of_nonneg {k : Int} (h : 0 ≤ k) : (2 : ℚ) ^ k = ((2 ^ k.toNat : Nat) : ℚ) := by
  rw [Nat.cast_pow, ← zpow_natCast, Int.toNat_of_nonneg h, Nat.cast_ofNat]

theorem two_zpow_of_neg {k : Int} (h : ¬ 0 ≤ k) : (2 : ℚ) ^ k = 1 / ((2 ^ (-k).toNat : Nat) : ℚ) := by
  rw [← two_zpow_of_nonneg (by omega), zpow_neg, one_div, inv_inv]

theorem scaleBy_pos (n d : Nat) (k : Int) (hd : 0 < d) : 0 < (scaleBy n d k).2 := by
  unfold scaleBy
  split
  · exact hd
  · exact Nat.mul_pos hd (Nat.two_pow_pos _)

theorem scaleBy_val (n d : Nat) (k : Int) :
    ((scaleBy n d k).1 : ℚ) / ((scaleBy n d k).2 : ℚ) = (n : ℚ) / d * (2 : ℚ) ^ k := by
  unfold scaleBy
  split
  · rename_i hk
    rw [two_zpow_of_nonneg hk, Nat.cast_mul, mul_div_right_comm]
  · rename_i hk
    rw [two_zpow_of_neg hk, Nat.cast_mul, div_mul_eq_div_div, div_eq_mul_one_div]

theorem mul_abs_natCast_sub_le {k a b c : Nat} (h1 : k * (a - b) ≤ c) (h2 : k * (b - a) ≤ c) :
    (k : ℚ) * |(a : ℚ) - b| ≤ c := by
  rcases le_total b a with h | h
  · rw [abs_of_nonneg (sub_nonneg.mpr (Nat.cast_le.mpr h)), ← Nat.cast_sub h]
    exact_mod_cast h1
  · rw [abs_of_nonpos (sub_nonpos.mpr (Nat.cast_le.mpr h)), neg_sub, ← Nat.cast_sub h]
    exact_mod_cast h2

theorem near_div {c x y D : ℚ} (hc : 0 < c) (hD : 0 < D) (h : c * |x * D - y| ≤ y) :
    Near (1 / c) x (y / D) := by
  have hy : 0 ≤ y := (mul_nonneg hc.le (abs_nonneg _)).trans h
  have e : |x * D - y| = |x - y / D| * D := by
    rw [← abs_of_pos hD, ← abs_mul, abs_of_pos hD, sub_mul, div_mul_cancel₀ y hD.ne']
  unfold Near
  rwa [abs_of_nonneg (div_nonneg hy hD.le), one_div, inv_mul_eq_div, div_div, le_div_iff₀ (mul_pos hD hc),
    ← mul_assoc, ← e, mul_comm]

theorem rneAt_near (n d : Nat) (k : Int) (m : Nat) (e : Int) (hd : 0 < d)
    (h : rneAt n d k = some (m, e)) : Near u (f64Val m e) ((n : ℚ) / d) := by
  obtain ⟨m', hm, _, _, _, _, h1, h2⟩ := c19_rneAt_nat_form n d k m e h
  have hval : f64Val m e = (m' : ℚ) * (2 : ℚ) ^ (-k) := by
    rcases hm with ⟨rfl, rfl⟩ | ⟨rfl, rfl, rfl⟩
    · rfl
    · rw [f64Val, zpow_add₀ (by norm_num), zpow_one, ← mul_assoc, mul_right_comm]
      norm_num
  have hD : (0 : ℚ) < (scaleBy n d k).2 := by exact_mod_cast scaleBy_pos n d k hd
  have hb := mul_abs_natCast_sub_le h1 h2
  push_cast at hb
  have := near_mul_const (near_div (by norm_num) hD hb) ((2 : ℚ) ^ (-k))
  rwa [scaleBy_val, ← hval, mul_assoc, ← zpow_add₀ (by norm_num), add_neg_cancel, zpow_zero, mul_one] at this

/-- **Correct rounding: relative error ≤ 2⁻⁵³.** Whenever `rne n d` returns `(m, e)`, the binary64
value `m · 2^e` satisfies `|m·2^e − n/d| / (n/d) ≤ 2⁻⁵³`, and it is a normal number
(`2^52 ≤ m < 2^53`, exponent in range). -/
theorem c19_rne_rel_err (n d m : Nat) (e : Int) (hn : 0 < n) (hd : 0 < d) (h : rne n d = some (m, e)) :
    |f64Val m e - (n : ℚ) / d| / ((n : ℚ) / d) ≤ 1 / 2 ^ 53 ∧
    2 ^ 52 ≤ m ∧ m < 2 ^ 53 ∧ -1022 ≤ e + 52 ∧ e + 52 ≤ 1023 := by
  obtain ⟨k, hk, hr1, hr2⟩ := c19_rne_is_rneAt n d m e h
  obtain ⟨_, _, hm1, hm2, _⟩ := c19_rneAt_nat_form n d k m e hk
  refine ⟨?_, hm1, hm2, hr1, hr2⟩
  exact (near_iff_div (by positivity)).mp (rneAt_near n d k m e hd hk)

/-- the rational a positive normal binary64 bit pattern stands for:
significand `bits mod 2^52 + 2^52`, exponent `bits div 2^52 − 1075` -/
def f64OfBits (bits : Nat) : ℚ := f64Val (bits % 2 ^ 52 + 2 ^ 52) (((bits / 2 ^ 52 : Nat) : Int) - 1075)

theorem f64OfBits_f64Bits (m : Nat) (e : Int) (h1 : 2 ^ 52 ≤ m) (h2 : m < 2 ^ 53) (h3 : -1022 ≤ e + 52) :
    f64OfBits (f64Bits m e) = f64Val m e := by
  have hlt : m - 2 ^ 52 < 2 ^ 52 := by omega
  have hE : (((e + 52 + 1023).toNat : Nat) : Int) - 1075 = e := by omega
  unfold f64OfBits f64Bits
  rw [Nat.mul_add_mod_self_right, Nat.mod_eq_of_lt hlt, Nat.sub_add_cancel h1, Nat.add_comm,
    Nat.add_mul_div_right _ _ (Nat.two_pow_pos 52), Nat.div_eq_of_lt hlt, Nat.zero_add, hE]

/-- **Every `RATIO` constant is the exact ratio up to 2⁻⁵³ (relative).** For every convertible pair
of tags the `f64` constant — the bit pattern `ratioBits a b` that the driver compares with the real
`Convert::RATIO` on every run — read as the positive normal binary64 number `r̂` it is
(`c19_f64_ratio_representable`) satisfies `|r̂ − ratio a b| / ratio a b ≤ 2⁻⁵³`. -/
theorem c19_f64_ratio (a b : Tag) (h : convertible a b = true) :
    ∃ bits, ratioBits a b = some bits ∧ 0 < ratioQ a b ∧
      |f64OfBits bits - ratioQ a b| / ratioQ a b ≤ 1 / 2 ^ 53 := by
  obtain ⟨n, d, m, e, hnd, hn, hd, hr, hbits, _, _⟩ := c19_f64_ratio_representable a b h
  obtain ⟨herr, hm1, hm2, he1, _⟩ := c19_rne_rel_err n d m e hn hd hr
  have hq : ratioQ a b = (n : ℚ) / d := by simp [ratioQ, hnd]
  refine ⟨_, hbits, ?_, ?_⟩
  · rw [hq]; positivity
  · rw [f64OfBits_f64Bits m e hm1 hm2 he1, hq]; exact herr

section generated
open Generated.Units

/-- `FROM_SECONDS` of every generated time tag: (struct, `scale.reduction_factor()`) -/
def genFromSeconds : List (List Char × Nat) :=
  timeTags.filterMap fun (s, _, sc) => (reductionFactor.lookup sc).map fun f => (s, f)

/-- `FROM_BITS` of every generated data tag: (struct, `bits * scale.expansion_factor()`) -/
def genFromBits : List (List Char × Nat) :=
  bitTags.filterMap fun (s, _, _, bits, sc) => (expansionFactor.lookup sc).map fun f => (s, bits * f)

def genNames : List (List Char) := plainTags.map (·.1) ++ timeTags.map (·.1) ++ bitTags.map (·.1)

/-- every `RATIO` the code declares, `(from, to, numerator, denominator)`, computed from the generated
tables and formula flags only -/
def genRatios : List (List Char × List Char × Nat × Nat) :=
  (if noneRatioIsOne then genNames.map fun b => (chars! "None", b, 1, 1) else []) ++
  (genFromSeconds.flatMap fun (a, fa) => genFromSeconds.map fun (b, fb) =>
    if timeRatioIsTargetOverSelf then (a, b, fb, fa) else (a, b, fa, fb)) ++
  (genFromBits.flatMap fun (a, fa) => genFromBits.map fun (b, fb) =>
    if bitRatioIsSelfOverTarget then (a, b, fa, fb) else (a, b, fb, fa))

/-- the same as a function of two struct names, by lookups in the generated tables -/
def genRatioFn (a b : List Char) : Option (Nat × Nat) :=
  if a == chars! "None" then
    if noneRatioIsOne && genNames.contains b then some (1, 1) else none
  else match genFromSeconds.lookup a, genFromSeconds.lookup b with
    | some fa, some fb => if timeRatioIsTargetOverSelf then some (fb, fa) else some (fa, fb)
    | _, _ => match genFromBits.lookup a, genFromBits.lookup b with
      | some fa, some fb => if bitRatioIsSelfOverTarget then some (fa, fb) else some (fb, fa)
      | _, _ => none

/-- **The ratios computed from the regenerated tables are the model's** (independently of the order
of the rows in `unit.rs`): the generated list has 435 rows, each of which is the model's ratio of
the two tags it names, and for *every* ordered pair of tags — convertible or not — the lookup in the
generated tables gives exactly `ratioND` (so no ratio of the model is missing from the code's tables
and no pair is convertible in one but not in the other). -/
theorem c19_generated_ratios_are_model :
    genRatios.length = 435 ∧
    (∀ p ∈ genRatios, ∃ a b : Tag, a.rustName = p.1 ∧ b.rustName = p.2.1 ∧
      ratioND a b = some (p.2.2.1, p.2.2.2)) ∧
    (∀ a b : Tag, genRatioFn a.rustName b.rustName = ratioND a b) := by
  have names : ∀ n ∈ genNames, ∃ t ∈ Tag.all, t.rustName = n := by decide +kernel
  have secs : ∀ q ∈ genFromSeconds, ∃ s ∈ Neg.all, (Tag.second s).rustName = q.1 ∧ fromSeconds s = q.2 := by
    decide +kernel
  have bits : ∀ q ∈ genFromBits, ∃ b ∈ Base.all, ∃ s ∈ Pos.all,
      (Tag.data b s).rustName = q.1 ∧ fromBits b s = q.2 := by decide +kernel
  refine ⟨by decide +kernel, fun p hp => ?_, by decide +kernel⟩
  -- a row is a `None` row or a pair of rows of one of the two factor tables
  simp only [genRatios, noneRatioIsOne, timeRatioIsTargetOverSelf, bitRatioIsSelfOverTarget, if_true,
    List.mem_append, List.mem_map, List.mem_flatMap] at hp
  rcases hp with (⟨n, hn, rfl⟩ | ⟨q, hq, q', hq', rfl⟩) | ⟨q, hq, q', hq', rfl⟩
  · obtain ⟨t, -, ht⟩ := names n hn
    exact ⟨.none, t, rfl, ht, rfl⟩
  · obtain ⟨s, -, hs, hf⟩ := secs q hq
    obtain ⟨s', -, hs', hf'⟩ := secs q' hq'
    exact ⟨.second s, .second s', hs, hs', hf ▸ hf' ▸ rfl⟩
  · obtain ⟨b, -, s, -, hs, hf⟩ := bits q hq
    obtain ⟨b', -, s', -, hs', hf'⟩ := bits q' hq'
    exact ⟨.data b s, .data b' s', hs, hs', hf ▸ hf' ▸ rfl⟩

/-- **For every pair of the generated table** the exact ratio `n/d` rounds to a normal binary64
number within relative error `2⁻⁵³`: the pair is one of the model's (`c19_generated_ratios_are_model`,
re-checked whenever `unit.rs` changes), whose constants `c19_f64_ratio_representable` rounds. -/
theorem c19_f64_ratio_generated (p : List Char × List Char × Nat × Nat) (hp : p ∈ genRatios) :
    0 < p.2.2.1 ∧ 0 < p.2.2.2 ∧ ∃ m e, rne p.2.2.1 p.2.2.2 = some (m, e) ∧
      |f64Val m e - (p.2.2.1 : ℚ) / p.2.2.2| / ((p.2.2.1 : ℚ) / p.2.2.2) ≤ 1 / 2 ^ 53 ∧
      2 ^ 52 ≤ m ∧ m < 2 ^ 53 ∧ -1022 ≤ e + 52 ∧ e + 52 ≤ 1023 := by
  obtain ⟨a, b, -, -, hnd⟩ := c19_generated_ratios_are_model.2.1 p hp
  obtain ⟨n, d, m, e, hnd', hn, hd, hme, -⟩ :=
    c19_f64_ratio_representable a b (Option.isSome_of_eq_some hnd)
  cases hnd.symm.trans hnd'
  exact ⟨hn, hd, m, e, hme, c19_rne_rel_err _ _ m e hn hd hme⟩

end generated

theorem near_trans {i j : Nat} {x y z : ℚ} (h₁ : Near (eps i) x y) (h₂ : Near (eps j) y z) :
    Near (eps (i + j)) x z := by
  unfold Near at *
  have hy : |y| ≤ |z| + eps j * |z| := by
    have := abs_sub_abs_le_abs_sub y z
    linarith
  calc |x - z| ≤ |x - y| + |y - z| := abs_sub_le x y z
    _ ≤ eps i * (|z| + eps j * |z|) + eps j * |z| :=
      add_le_add (h₁.trans (mul_le_mul_of_nonneg_left hy (eps_nonneg i))) h₂
    _ = eps (i + j) * |z| := by rw [← eps_add]; ring

theorem near_mul {i j : Nat} {a a₀ b b₀ : ℚ} (h₁ : Near (eps i) a a₀) (h₂ : Near (eps j) b b₀) :
    Near (eps (i + j)) (a * b) (a₀ * b₀) :=
  near_trans (near_mul_const h₁ b) (by simpa only [mul_comm a₀] using near_mul_const h₂ a₀)

/-- one conversion step of the binary64 twin: `y` approximates the exact `w` after `i` roundings,
`r̂` is a rounded ratio, `z` the rounded product `y · r̂`; then `z` approximates `w · r` after `i + 2`. -/
theorem near_step {i : Nat} {y w rh r z : ℚ} (hy : Near (eps i) y w) (hr : Near u rh r)
    (hz : Near u z (y * rh)) : Near (eps (i + 2)) z (w * r) :=
  (by omega : 1 + (i + 1) = i + 2) ▸ near_trans (near_one hz) (near_mul hy (near_one hr))

theorem near_scale {a b : Tag} (h : convertible a b = true) (ha : a ≠ .none) {ε z v : ℚ}
    (hz : Near ε z (v * ratioQ a b)) : Near ε (z * Spec.scale b) (v * Spec.scale a) :=
  c19_quantity_preserved a b h ha v ▸ near_mul_const hz (Spec.scale b)

theorem ratio_near {a b : Tag} (h : convertible a b = true) {bits : Nat} (hb : ratioBits a b = some bits) :
    Near u (f64OfBits bits) (ratioQ a b) := by
  obtain ⟨bits', hb', hpos, herr⟩ := c19_f64_ratio a b h
  cases hb.symm.trans hb'
  exact (near_iff_div hpos).mpr herr

/-- **The binary64 twin keeps the quantity up to three roundings.** `v` is the exact input, `x` its
`f64` (`u64 as f64`, or `v` itself), `r̂` the real `RATIO` constant of the pair, `z` the correctly
rounded product `x · r̂` that `Convert::convert` emits. Then the emitted number read in the target
unit is the input read in the source unit up to relative error `(1+2⁻⁵³)³ − 1 ≤ 4·2⁻⁵³`. -/
theorem c19_f64_convert_error (a b : Tag) (h : convertible a b = true) (ha : a ≠ .none) (bits : Nat)
    (hb : ratioBits a b = some bits) (v x z : ℚ) (hx : Near u x v) (hz : Near u z (x * f64OfBits bits)) :
    Near (eps 3) (z * Spec.scale b) (v * Spec.scale a) ∧ eps 3 ≤ 4 * u := by
  exact ⟨near_scale h ha (near_step (near_one hx) (ratio_near h hb) hz), by norm_num [eps, u]⟩

/-- **Composition A→B→C against A→C.** Going through an intermediate unit with two rounded ratios and
two rounded products stays within `(1+2⁻⁵³)⁵ − 1 ≤ 6·2⁻⁵³` of the exact quantity, the direct
conversion within `(1+2⁻⁵³)³ − 1`; hence the two routes differ by at most `10·2⁻⁵³` relative to the
exact value `v · ratio a c`. -/
theorem c19_f64_compose (a b c : Tag) (hab : convertible a b = true) (hbc : convertible b c = true)
    (ha : a ≠ .none) (bab bbc bac : Nat) (h1 : ratioBits a b = some bab) (h2 : ratioBits b c = some bbc)
    (h3 : ratioBits a c = some bac) (v x z₁ z₂ zd : ℚ) (hx : Near u x v)
    (hz₁ : Near u z₁ (x * f64OfBits bab)) (hz₂ : Near u z₂ (z₁ * f64OfBits bbc))
    (hzd : Near u zd (x * f64OfBits bac)) :
    Near (eps 5) (z₂ * Spec.scale c) (v * Spec.scale a) ∧
    Near (eps 3) (zd * Spec.scale c) (v * Spec.scale a) ∧
    |z₂ - zd| ≤ 10 * u * |v * ratioQ a c| := by
  obtain ⟨hac, hcomp⟩ := c19_ratio_compose a b c hab hbc ha
  have s1 := near_step (near_one hx) (ratio_near hab h1) hz₁
  have s2 := near_step s1 (ratio_near hbc h2) hz₂
  rw [mul_assoc, hcomp] at s2
  have sd := near_step (near_one hx) (ratio_near hac h3) hzd
  refine ⟨near_scale hac ha s2, near_scale hac ha sd, ?_⟩
  calc |z₂ - zd| ≤ |z₂ - v * ratioQ a c| + |v * ratioQ a c - zd| := abs_sub_le _ _ _
      _ ≤ eps 5 * |v * ratioQ a c| + eps 3 * |v * ratioQ a c| := add_le_add s2 (abs_sub_comm zd _ ▸ sd)
      _ = (eps 5 + eps 3) * |v * ratioQ a c| := (add_mul _ _ _).symm
      _ ≤ 10 * u * |v * ratioQ a c| :=
        mul_le_mul_of_nonneg_right (by norm_num [eps, u]) (abs_nonneg _)

/-- **Inverse pairs of `f64` constants**: `RATIO(a,b) · RATIO(b,a)` is 1 up to `(1+2⁻⁵³)² − 1 ≤ 3·2⁻⁵³`. -/
theorem c19_f64_inverse (a b : Tag) (hab : convertible a b = true) (hba : convertible b a = true)
    (bab bba : Nat) (h1 : ratioBits a b = some bab) (h2 : ratioBits b a = some bba) :
    Near (eps 2) (f64OfBits bab * f64OfBits bba) 1 ∧ eps 2 ≤ 3 * u := by
  have := near_mul (near_one (ratio_near hab h1)) (near_one (ratio_near hba h2))
  rw [c19_inverse a b hab hba] at this
  exact ⟨this, by norm_num [eps, u]⟩

/-- **Round trip of the binary64 twin**: converting there and back returns the input up to
`(1+2⁻⁵³)⁵ − 1 ≤ 6·2⁻⁵³`. -/
theorem c19_f64_roundtrip (a b : Tag) (hab : convertible a b = true) (hba : convertible b a = true)
    (bab bba : Nat) (h1 : ratioBits a b = some bab) (h2 : ratioBits b a = some bba)
    (v x z₁ z₂ : ℚ) (hx : Near u x v) (hz₁ : Near u z₁ (x * f64OfBits bab))
    (hz₂ : Near u z₂ (z₁ * f64OfBits bba)) :
    Near (eps 5) z₂ v ∧ eps 5 ≤ 6 * u := by
  have s1 := near_step (near_one hx) (ratio_near hab h1) hz₁
  have s2 := near_step s1 (ratio_near hba h2) hz₂
  rw [mul_assoc, c19_inverse a b hab hba, mul_one] at s2
  exact ⟨s2, by norm_num [eps, u]⟩

/-- the binary64 twin of a tower of unit wrappers: `z` results from `x` by multiplying, step by
step, with the real `RATIO` constant of the step and rounding (a step whose ratio is 1 returns its
input, which is such a rounding) -/
inductive FlChain : Tag → List Tag → ℚ → ℚ → Prop
  | nil (src : Tag) (x : ℚ) : FlChain src [] x x
  | cons (src t : Tag) (ts : List Tag) (x z₁ z : ℚ) (bits : Nat) (hb : ratioBits src t = some bits)
      (h₁ : Near u z₁ (x * f64OfBits bits)) (h : FlChain t ts z₁ z) : FlChain src (t :: ts) x z

/-- **Any tower of unit wrappers, binary64 twin.** For every well-typed tower `src → t₁ → … → tₙ`
(`src ≠ None`), if `x` approximates the exact input `w` after `i` roundings, the emitted number read
in `tₙ` is `w` read in `src` up to `(1+2⁻⁵³)^(i+2n) − 1`: two roundings per wrapper (the constant
and the product), nothing else. -/
theorem c19_f64_nested (src : Tag) (chain : List Tag) (hsrc : src ≠ .none)
    (hc : chainConvertible src chain = true) (i : Nat) (w x z : ℚ) (hx : Near (eps i) x w)
    (h : FlChain src chain x z) :
    Near (eps (i + 2 * chain.length)) (z * Spec.scale (chainLast src chain)) (w * Spec.scale src) := by
  induction h generalizing i w with
  | nil src x => exact near_mul_const hx (Spec.scale src)
  | cons src t ts x z₁ z bits hb h₁ _ ih =>
    simp only [chainConvertible, Bool.and_eq_true] at hc
    have := ih (convertible_ne_none hc.1 hsrc) hc.2 (i + 2) (w * ratioQ src t)
      (near_step hx (ratio_near hc.1 hb) h₁)
    rw [c19_quantity_preserved src t hc.1 hsrc w] at this
    have e : i + 2 + 2 * ts.length = i + 2 * (t :: ts).length := by simp only [List.length_cons]; omega
    exact e ▸ this

theorem absQ_eq (x : ℚ) : absQ x = |x| := by
  unfold absQ
  split
  · rename_i h; rw [abs_of_neg h]
  · rename_i h; rw [abs_of_nonneg (not_lt.mp h)]

theorem nearB_iff (ε x y : ℚ) : nearB ε x y = true ↔ Near ε x y := by
  unfold nearB Near
  rw [decide_eq_true_iff, absQ_eq, absQ_eq]

theorem roundoff_eq : roundoff = u := by
  unfold roundoff u; norm_num

theorem epsQ_eq (k : Nat) : epsQ k = eps k := by
  unfold epsQ eps; rw [roundoff_eq]

theorem pow2_eq (e : Int) : pow2 e = (2 : ℚ) ^ e := by
  unfold pow2
  split
  · rw [two_zpow_of_nonneg ‹_›]
  · rw [two_zpow_of_neg ‹_›]

theorem f64ToRat_normal (bits : Nat) (hpos : bits < 2 ^ 63) (hn : f64IsNormal bits = true) :
    f64ToRat bits = some (f64OfBits bits) := by
  have hE : bits / 2 ^ 52 % 2 ^ 11 = bits / 2 ^ 52 :=
    Nat.mod_eq_of_lt (Nat.div_lt_of_lt_mul (by rwa [← Nat.pow_add]))
  simp only [f64IsNormal, hE, decide_eq_true_eq] at hn
  have h1 : ¬ (bits / 2 ^ 52 = 2047) := by omega
  have h2 : ¬ (bits / 2 ^ 52 = 0) := by omega
  simp only [f64ToRat, f64OfBits, f64Val, hE, Nat.div_eq_of_lt hpos, Nat.zero_mod, h1, h2, decide_false, ↓reduceIte,
    Bool.false_eq_true, pow2_eq, reduceCtorEq]

/-- **What an `ok` answer of the driver means.** When `convertBoundOk a b v zbits` evaluates to
`true` for an observed conversion (exact input `v`, emitted bit pattern `zbits`), the emitted value
`z`, read in the target unit, is the input read in the source unit up to `(1+2⁻⁵³)³ − 1` — the
conclusion of `c19_f64_convert_error`, checked on the real output instead of assumed from IEEE-754. -/
theorem c19_bound_check_sound (a b : Tag) (h : convertible a b = true) (ha : a ≠ .none) (v : ℚ)
    (zbits : Nat) (hok : convertBoundOk a b v zbits = some true) :
    ∃ z, f64ToRat zbits = some z ∧ Near (eps 3) (z * Spec.scale b) (v * Spec.scale a) := by
  unfold convertBoundOk at hok
  split at hok
  · rename_i n d z hnd hz
    simp only [Option.some.injEq] at hok
    have hq : ratioQ a b = (n : ℚ) / d := by simp [ratioQ, hnd]
    rw [nearB_iff, epsQ_eq, ← hq] at hok
    exact ⟨z, hz, near_scale h ha hok⟩
  · cases hok

-- non-vacuity: the constant 0.001 (Millisecond → Second) and a one-step tower
example : |f64OfBits 0x3f50624dd2f1a9fc - 1 / 1000| / (1 / 1000) ≤ 1 / 2 ^ 53 := by
  norm_num [f64OfBits, f64Val, abs_le]
example : FlChain (.second .milli) [.second .one] 1500 (1500 * f64OfBits 0x3f50624dd2f1a9fc) :=
  .cons _ _ _ _ _ _ 0x3f50624dd2f1a9fc (by decide +kernel) (near_of_eq u u_pos.le rfl) (.nil _ _)

end Units

#print axioms Units.c19_rne_rel_err
#print axioms Units.c19_f64_ratio
#print axioms Units.c19_generated_ratios_are_model
#print axioms Units.c19_f64_ratio_generated
#print axioms Units.c19_f64_convert_error
#print axioms Units.c19_f64_compose
#print axioms Units.c19_f64_inverse
#print axioms Units.c19_f64_roundtrip
#print axioms Units.c19_f64_nested
#print axioms Units.c19_bound_check_sound
