import Props.C09
import Model.Limiter
/-!
# C01 — the background queue hands every appended entry to the stream exactly once, in order

Theorems about `Queue.step` for every event sequence (any number of producers, any interleaving
of producers, flushers and writer micro-steps, any clock bits, any per-entry stream results).
-/
namespace Queue

theorem survivors_nil (po : List Ent) : survivors po [] = po := by
  simp [survivors]

/-- **Exactly once, in order.** While nothing has overflowed, the entries handed to the stream,
followed by the entry being written, followed by the ring, are exactly the pushed entries in push
(linearisation) order: nothing is lost, nothing duplicated, nothing reordered, and the stream has
received a prefix of the push order. -/
theorem c01_exactly_once {s : QState} (hr : Reachable s) (h0 : s.overflow = 0) :
    delivered s.log ++ holding s.wpc ++ s.ring = s.pushOrder ∧ s.pushOrder.Nodup := by
  have hc := conserve_reachable hr
  have hd : displaced s.log = [] := List.eq_nil_of_length_eq_zero (hc.count ▸ h0)
  have := hc.cons
  rw [hd, survivors_nil] at this
  exact ⟨this, hc.nodup⟩

/-- While nothing has overflowed, entries pushed by one producer reach the stream in the order that producer
pushed them: the producer's delivered entries are a prefix of the producer's pushes. -/
theorem c01_per_producer_order {s : QState} (hr : Reachable s) (h0 : s.overflow = 0) (p : Nat) :
    (delivered s.log).filter (fun e => e.1 == p) <+: s.pushOrder.filter (fun e => e.1 == p) := by
  have h := (c01_exactly_once hr h0).1
  have : delivered s.log <+: s.pushOrder := ⟨holding s.wpc ++ s.ring, by rw [← h, List.append_assoc]⟩
  exact this.filter _

def ReportsOk (log : List Obs) : Prop :=
  ∀ pre post, log = pre ++ Obs.report :: post → ∃ pre' e, pre = pre' ++ [Obs.next e .validation]

def NextsOk (s : QState) : Prop :=
  ∀ e r, Obs.next e r ∈ s.log → e ∈ s.pushOrder ∧ r = s.res e

theorem ReportsOk.append {a b : List Obs} (ha : ReportsOk a) (hb : ReportsOk b) : ReportsOk (a ++ b) := by
  intro pre post h
  rcases append_eq_append_cons h with ⟨post', h1⟩ | ⟨pre', rfl, h2⟩
  · exact ha pre post' h1
  · obtain ⟨p, e, rfl⟩ := hb pre' post h2
    exact ⟨a ++ p, e, (List.append_assoc _ _ _).symm⟩

theorem reportsOk_of_not_mem {l : List Obs} (h : Obs.report ∉ l) : ReportsOk l :=
  fun pre _ heq => absurd (heq ▸ List.mem_append_right pre List.mem_cons_self) h

theorem reportsOk_consumeObs (s : QState) (c : Clock) (e : Ent) : ReportsOk (consumeObs s c e) := by
  unfold consumeObs
  split
  · rename_i hcond
    rintro (_ | ⟨x, _ | ⟨y, pre⟩⟩) post heq
    · cases heq
    · cases heq; exact ⟨[], e, by rw [hcond.1]; rfl⟩
    · simp at heq
  · exact reportsOk_of_not_mem (by simp)

theorem Emits.stream {s : QState} {ev : Ev} {added : List Obs} (h : Emits s ev added) :
    (∃ c e, ev = .w c ∧ holding s.wpc = [e] ∧ added = consumeObs s c e) ∨
      (∀ e r, Obs.next e r ∉ added) ∧ Obs.report ∉ added := by
  cases h
  case consume c e hh => exact .inl ⟨c, e, rfl, hh, rfl⟩
  all_goals exact .inr (by simp)

theorem extras_step {s s' : QState} {ev : Ev} (hc : Conserve s) (hn : NextsOk s)
    (hrep : ReportsOk s.log) (h : Step s ev s') : NextsOk s' ∧ ReportsOk s'.log := by
  obtain ⟨_, hres, hpo, _⟩ := h.frame
  obtain ⟨added, hl, he⟩ := h.emits
  -- what the step appends is in order by itself
  have hadd : (∀ e r, Obs.next e r ∈ added → e ∈ s.pushOrder ∧ r = s.res e) ∧ ReportsOk added := by
    rcases he.stream with ⟨c, e, _, hh, rfl⟩ | ⟨hnext, hreport⟩
    · refine ⟨fun e' r h1 => ?_, reportsOk_consumeObs s c e⟩
      have hin : e ∈ survivors s.pushOrder (displaced s.log) := by rw [← hc.cons, hh]; simp
      rcases mem_consumeObs h1 with h2 | h2
      · cases h2; exact ⟨(List.mem_filter.mp hin).1, rfl⟩
      · cases h2.1
    · exact ⟨fun e' r h1 => absurd h1 (hnext e' r), reportsOk_of_not_mem hreport⟩
  rw [hl]
  refine ⟨fun e r hm => ?_, hrep.append hadd.2⟩
  obtain ⟨h1, h2⟩ := (List.mem_append.mp (hl ▸ hm)).elim (hn e r) (hadd.1 e r)
  exact ⟨hpo.subset h1, hres ▸ h2⟩

/-- **Nothing else reaches the stream.** In every reachable state each `next` call in the history
carries an entry that was pushed, with that entry's scripted result, and each in-band error report
directly follows a `next` that returned a validation error. -/
theorem c01_only_reports_extra {s : QState} (hr : Reachable s) :
    (∀ e r, Obs.next e r ∈ s.log → e ∈ s.pushOrder ∧ r = s.res e) ∧
    (∀ pre post, s.log = pre ++ Obs.report :: post → ∃ pre' e, pre = pre' ++ [Obs.next e .validation]) :=
  hr.inv (P := fun s => NextsOk s ∧ ReportsOk s.log) (fun _ _ _ => ⟨nofun, reportsOk_of_not_mem List.not_mem_nil⟩)
    fun _ _ _ hr' hi h => extras_step (conserve_reachable hr') hi.1 hi.2 h

/-- **The report is written only while no tracing subscriber is installed** — decided at the moment
of the report, not once: a step appends `report` to the history only if it is the writer handing an
entry to the stream whose result is a validation error, the rate limiter lets the report through,
and `noSubscriber` holds in the state *in which that step is taken*. The environment may install or
remove a subscriber at any time (event `setSubscriber`). -/
theorem c01_report_only_without_subscriber {s s' : QState} {ev : Ev} (h : step s ev = some s')
    (hnew : Obs.report ∈ s'.log.drop s.log.length) :
    s.noSubscriber = true ∧ ∃ c e, ev = .w c ∧ holding s.wpc = [e] ∧ s.res e = .validation ∧ c.limiterFires = true := by
  obtain ⟨added, hl, he⟩ := (step_inv h).emits
  rw [hl, List.drop_left] at hnew
  rcases he.stream with ⟨c, e, hev, hh, rfl⟩ | ⟨_, hreport⟩
  · rcases mem_consumeObs hnew with h2 | h2
    · cases h2
    · exact ⟨h2.2.2.1, c, e, hev, hh, h2.2.1, h2.2.2.2⟩
  · exact absurd hnew hreport

/-- Installing a subscriber is an event like any other: it changes nothing but the flag. -/
theorem c01_set_subscriber (s : QState) (present : Bool) :
    step s (.setSubscriber present) = some { s with noSubscriber := !present } := rfl

/-- every evaluation moves `NEXT_CALL` past the second of the call, and all calls lie in `[lo, hi]` -/
theorem limiter_fires_le (lo hi : Nat) : ∀ (ts : List Nat) (next : Nat), (∀ t ∈ ts, lo ≤ t ∧ t ≤ hi) →
    Limiter.fires next ts ≤ hi / 1000 + 1 - max next (lo / 1000)
  | [], _, _ => Nat.zero_le _
  | t :: ts, next, hb => by
    have ht := hb t List.mem_cons_self
    have ih := fun n => limiter_fires_le lo hi ts n fun x hx => hb x (List.mem_cons_of_mem _ hx)
    have hq : (t + 1000) / 1000 = t / 1000 + 1 := Nat.add_div_right t (by decide)
    have hl : lo / 1000 ≤ t / 1000 := Nat.div_le_div_right ht.1
    have hh : t / 1000 ≤ hi / 1000 := Nat.div_le_div_right ht.2
    simp only [Limiter.fires, Limiter.call, hq]
    -- the seconds are all `omega` needs to see
    generalize t / 1000 = q at *
    generalize lo / 1000 = l at *
    generalize hi / 1000 = h at *
    split
    · have := ih (q + 1); simp only [if_true]; omega
    · have := ih next; simp only [Bool.false_eq_true, if_false]; omega

/-- **The in-band report is rate-limited.** Whatever the limiter's state and however many validation
failures occur: over any sequence of calls (in time order) that lie in a window `[a, a + d]` (milliseconds), the
guarded expression — writing the report — is evaluated at most `⌊d / 1 s⌋ + 2` times. This is the bound the
harness applies to a burst of validation failures (`Limiter.windowBound`). -/
theorem c01_limiter_bound (next a d : Nat) (ts : List Nat) (hs : ts.Pairwise (· ≤ ·))
    (hw : ∀ t ∈ ts, a ≤ t ∧ t ≤ a + d) : Limiter.fires next ts ≤ Limiter.windowBound d := by
  have := limiter_fires_le a (a + d) ts next hw
  unfold Limiter.windowBound
  omega

/-- The limiter closes for the rest of the current second after every evaluation: two evaluations are
never in the same whole second. -/
theorem c01_limiter_closes (next t : Nat) (h : (Limiter.call next t).1 = true) (u : Nat) (hu : u / 1000 = t / 1000) :
    (Limiter.call (Limiter.call next t).2 u).1 = false := by
  unfold Limiter.call at h ⊢
  by_cases hn : next ≤ t / 1000
  · simp only [hn, if_true]
    have : ¬ (t / 1000 + 1 ≤ u / 1000) := by omega
    have h1 : (t + 1000) / 1000 = t / 1000 + 1 := by omega
    simp [h1, this]
  · simp [hn] at h

/-- The seeded variant (`next := previous slot + interval` instead of `now + interval`) is NOT rate
limited in this sense: one evaluation at time 0, silence for five seconds, then five calls within 4 ms
are all evaluated — five reports in a window whose bound is two. -/
theorem c01_limiter_catchup_violates :
    Limiter.firesCatchUp 1 [5000, 5001, 5002, 5003, 5004] = 5 ∧ Limiter.windowBound 4 = 2 ∧
    Limiter.fires 1 [5000, 5001, 5002, 5003, 5004] = 1 := by decide +kernel

/-- the history with results and reports erased -/
def strip (log : List Obs) : List Obs :=
  log.filterMap fun
    | .next e _ => some (.next e .ok)
    | .report => none
    | o => some o

@[simp] theorem strip_append (a b : List Obs) : strip (a ++ b) = strip a ++ strip b := List.filterMap_append

@[simp] theorem strip_consumeObs (s : QState) (c : Clock) (e : Ent) : strip (consumeObs s c e) = [.next e .ok] := by
  unfold consumeObs; split <;> rfl

@[simp] theorem strip_displaced (d : Ent) : strip [Obs.displaced d] = [Obs.displaced d] := rfl
@[simp] theorem strip_completed1 (i : Nat) (b : Bool) : strip [Obs.completed i b] = [Obs.completed i b] := rfl
@[simp] theorem strip_joinReturned : strip [Obs.joinReturned] = [Obs.joinReturned] := rfl
@[simp] theorem strip_flush : strip [Obs.flush] = [Obs.flush] := rfl
@[simp] theorem strip_flush_closed : strip [Obs.flush, Obs.closed] = [Obs.flush, Obs.closed] := rfl
@[simp] theorem strip_nil : strip [] = [] := rfl
@[simp] theorem strip_completed (l : List Nat) (b : Bool) :
    strip (l.map (Obs.completed · b)) = l.map (Obs.completed · b) := by
  induction l with
  | nil => rfl
  | cons x xs ih => exact congrArg (_ :: ·) ih

theorem delivered_strip (l : List Obs) : delivered (strip l) = delivered l := by
  induction l with
  | nil => rfl
  | cons o l ih =>
    cases o with
    | next e r => exact congrArg (e :: ·) ih
    | _ => exact ih

/-- `b` is `a` with other scripted results, another subscriber flag, and a history that differs in the
erased parts only -/
def Sim (a b : QState) : Prop :=
  ∃ res ns log, b = { a with res := res, noSubscriber := ns, log := log } ∧ strip log = strip a.log

/-- The control flow of a step reads neither results, subscriber flag nor history: the same branch
is taken from `b`, which `simp` checks by evaluating `step` under the guards of that branch. -/
theorem sim_step {a b a' : QState} {ev : Ev} (hs : Sim a b) (h : step a ev = some a') :
    ∃ b', step b ev = some b' ∧ Sim a' b' := by
  obtain ⟨r, n, l, rfl, hl⟩ := hs
  replace h := step_inv h
  cases h
  case push p hh hroom =>
    exact ⟨_, by simp only [step, hh, forcePush_room _ hroom, ↓reduceIte]; rfl, _, _, _, rfl, hl⟩
  case pushFull p d t hh hr hc =>
    exact ⟨_, by simp only [step, hh, hr, forcePush_full _ (hr ▸ hc), ↓reduceIte]; rfl, _, _, _, rfl, by simp [hl]⟩
  case flushDead | dropJoinEnd => exact ⟨_, by simp only [step, *, ↓reduceIte]; rfl, _, _, _, rfl, by simp [hl]⟩
  case w c hw =>
    simp only [step]
    cases hw
    case countDown st k hpc hw hc => exact ⟨_, by simp [wstep, hpc, hww_eq, hw, hc], r, n, l, rfl, hl⟩
    case collect st k hpc hw => exact ⟨_, by simp [wstep, hpc, hww_eq, hw], r, n, l, rfl, hl⟩
    case wake st k hpc hw hc =>
      exact ⟨_, by simp [wstep, hpc, hww_eq, hw, hc], r, n, l ++ .flush :: a.waiting.map (Obs.completed · true), rfl,
        by simp [hl]⟩
    case shutConsume e n hpc hit | shutConsumeHit e n hpc hit =>
      exact ⟨_, by simp only [wstep, hpc, hit, Bool.or_false, Bool.or_true, Bool.false_eq_true, ↓reduceIte]; rfl,
        _, _, _, rfl, by simp [hl]⟩
    case consume | consumeHit | outerFlush | shutFlush =>
      exact ⟨_, by simp only [wstep, *, ↓reduceIte]; rfl, _, _, _, rfl, by simp [hl]⟩
    all_goals exact ⟨_, by simp only [wstep, *, ↓reduceIte]; rfl, _, _, _, rfl, hl⟩
  all_goals exact ⟨_, by simp only [step, *, ↓reduceIte]; rfl, _, _, _, rfl, hl⟩

theorem sim_run {a b a' : QState} {evs : List Ev} (hs : Sim a b) (h : run a evs = some a') :
    ∃ b', run b evs = some b' ∧ Sim a' b' := by
  induction evs generalizing a b with
  | nil => cases h; exact ⟨b, rfl, hs⟩
  | cons ev evs ih =>
    simp only [run] at h ⊢
    split at h
    · cases h
    · obtain ⟨b1, hb1, hs1⟩ := sim_step hs ‹_›
      rw [hb1]
      exact ih hs1 h

/-- **Errors are local.** Run the same event sequence (same producers, same schedule, same clock)
against two different assignments of stream results (`Ok` / `Validation` / `Io`) and subscriber
settings: the second run is possible whenever the first is, and the stream receives the same
entries in the same order — in fact the whole history is the same apart from the results returned
and the in-band error reports. A failing entry therefore neither prevents, repeats nor reorders
any other entry. -/
theorem c01_errors_independent (cap : Nat) (res₁ res₂ : Ent → Res) (ns₁ ns₂ : Bool) (evs : List Ev)
    {s₁ : QState} (h : run (init cap res₁ ns₁) evs = some s₁) :
    ∃ s₂, run (init cap res₂ ns₂) evs = some s₂ ∧ delivered s₂.log = delivered s₁.log ∧
      strip s₂.log = strip s₁.log ∧ s₂.ring = s₁.ring ∧ s₂.wpc = s₁.wpc := by
  obtain ⟨s₂, h2, r, n, l, rfl, hl⟩ := sim_run (b := init cap res₂ ns₂) ⟨_, _, _, rfl, rfl⟩ h
  exact ⟨_, h2, by rw [← delivered_strip, hl, delivered_strip], hl, rfl, rfl⟩

/-! ### The kind of an I/O error is not an input of the model

`Res.io` has no kind: whatever `io::ErrorKind` the stream returns (Other, BrokenPipe, Interrupted, WouldBlock,
TimedOut, WriteZero, UnexpectedEof, …) `consume` counts the error, logs it (rate-limited) and goes on with the
next entry, so `c01_exactly_once`, `c01_per_producer_order` and `c01_errors_independent` hold for all kinds alike.
Two decided witnesses that variants which *do* look at the kind are not refinements: -/

/-- variant of the writer that offers an entry to the stream a second time when `next` fails with an I/O error
(seeded: retry once on `Interrupted`) -/
def wstepRetry (s : QState) (c : Clock) : Option QState :=
  match s.wpc with
  | .holding e _ => if s.res e = .io then (wstep s c).map fun s' => { s' with log := s'.log ++ [.next e .ok] } else wstep s c
  | _ => wstep s c

/-- variant that puts the entry back at the tail of the ring when `next` fails with an I/O error and there
is room (seeded: `queue.push(entry)` on `Interrupted` / `WouldBlock`) -/
def wstepRequeue (s : QState) (c : Clock) : Option QState :=
  match s.wpc with
  | .holding e _ =>
    if s.res e = .io ∧ s.ring.length < s.cap ∧ e ∉ delivered s.log then
      (wstep s c).map fun s' => { s' with ring := s'.ring ++ [e] }
    else wstep s c
  | _ => wstep s c

def ioClock : Clock := ⟨false, false, false, false⟩

def wrunWith (f : QState → Clock → Option QState) (c : Clock) : Nat → QState → QState
  | 0, s => s
  | n + 1, s => match f s c with
    | some s' => wrunWith f c n s'
    | none => s

/-- two entries pushed, the first fails with an I/O error; then the writer runs alone -/
def ioKindStart : Option QState :=
  run (init 4 (fun e => if e.2 = 0 then .io else .ok) true) [.push 0, .push 0]

/-- **Retry-on-kind violates exactly-once**: the real writer hands `[e0, e1]` to the stream, the retrying
variant `[e0, e0, e1]`. -/
theorem c01_retry_variant_violates :
    ioKindStart.map (fun s => delivered (wrunWith wstep ioClock 8 s).log) = some [(0, 0), (0, 1)] ∧
    ioKindStart.map (fun s => delivered (wrunWith wstepRetry ioClock 8 s).log) = some [(0, 0), (0, 0), (0, 1)] := by
  decide +kernel

/-- **Requeue-on-kind violates order (and exactly-once)**: the re-queued entry reaches the stream again,
after the entry that was appended after it. -/
theorem c01_requeue_variant_violates :
    ioKindStart.map (fun s => delivered (wrunWith wstepRequeue ioClock 10 s).log) = some [(0, 0), (0, 1), (0, 0)] := by
  decide +kernel

/-- writer states from which it reaches `park` without looking at the ring again -/
def headingToPark : WPc → Bool
  | .afterDrain .drained _ => true
  | .postHww .drained => true
  | .parking => true
  | _ => false

theorem parkStage_pos {pc : WPc} (h : headingToPark pc = true) : 1 ≤ parkStage pc := by
  unfold headingToPark at h
  split at h
  · exact Nat.le_refl 1
  · exact Nat.le_succ 1
  · decide
  · cases h

/-- **No lost wake-up.** In every reachable state: a non-empty ring together with a writer that is
inside `park` (or heading there after having seen the ring empty) implies that the token is set or
a producer is about to `unpark`. So an entry can never sit in the ring with everybody asleep. -/
theorem c01_no_lost_wakeup {s : QState} (hr : Reachable s) (hne : s.ring ≠ []) :
    headingToPark s.wpc = false ∨ s.token = true ∨ s.pushed ≠ [] := by
  cases hp : headingToPark s.wpc with
  | false => exact .inl rfl
  | true => exact .inr ((parkInv_reachable hr).ring (parkStage_pos hp) hne)

/-- **Quiescence means delivered.** If all producers have finished their `append` calls, the writer
is blocked in `park` and no token is pending, the ring is empty; if moreover nothing overflowed, the
stream has received every pushed entry, in push order. -/
theorem c01_quiescent_all_delivered {s : QState} (hr : Reachable s) (hp : s.pushed = [])
    (hw : s.wpc = .parking) (ht : s.token = false) :
    s.ring = [] ∧ (s.overflow = 0 → delivered s.log = s.pushOrder) := by
  have hring : s.ring = [] := by
    cases hrr : s.ring with
    | nil => rfl
    | cons e t =>
      have := c01_no_lost_wakeup hr (by rw [hrr]; simp)
      rw [hw, ht, hp] at this
      simp [headingToPark] at this
  refine ⟨hring, fun h0 => ?_⟩
  have := (c01_exactly_once hr h0).1
  rw [hw, hring] at this
  simpa [holding] using this

/-- **Trace specification (T-trace).** The executable predicate the driver evaluates on histories of
real multi-threaded runs holds of every reachable state of the model without overflow: each producer's
delivered entries are a prefix of that producer's pushes; and all of them once the queue is drained
(nothing in flight). -/
theorem c01_spec_accepts {s : QState} (hr : Reachable s) (h0 : s.overflow = 0) (n : Nat)
    (hn : ∀ e ∈ s.pushOrder, e.1 < n) :
    Spec.acceptOrder n s.pushOrder (delivered s.log) false false = true ∧
    (holding s.wpc = [] → s.ring = [] → Spec.acceptOrder n s.pushOrder (delivered s.log) false true = true) := by
  have hex := (c01_exactly_once hr h0).1
  have hsub : ∀ e ∈ delivered s.log, e.1 < n := by
    intro e he; exact hn e (by rw [← hex]; simp [he])
  constructor
  · simp only [Spec.acceptOrder, Bool.and_eq_true, List.all_eq_true]
    refine ⟨fun p _ => ?_, fun e he => by simpa using hsub e he⟩
    simp only [Spec.producerPrefix, Spec.ofProducer, Bool.false_eq_true, if_false]
    exact List.isPrefixOf_iff_prefix.mpr (c01_per_producer_order hr h0 p)
  · intro hh hr0
    rw [hh, hr0] at hex
    simp only [List.append_nil] at hex
    simp only [Spec.acceptOrder, Bool.and_eq_true, List.all_eq_true]
    refine ⟨fun p _ => ?_, fun e he => by simpa using hsub e he⟩
    simp [Spec.producerPrefix, hex]

/-! Non-vacuity: three producers, nine events -/

def nvClock1 : Clock := ⟨false, false, false, true⟩

def nvRun1 : Option QState :=
  run (init 4 (fun e => if e.2 = 0 then .validation else .ok) true)
    [.push 0, .push 1, .w nvClock1, .unpark 1, .w nvClock1, .push 2, .w nvClock1, .w nvClock1, .unpark 0]

example : (nvRun1.map fun s => (delivered s.log, holding s.wpc, s.ring, s.overflow, s.log.contains .report)) =
    some ([(0, 0), (1, 1)], [], [(2, 2)], 0, true) := by decide +kernel

end Queue

#print axioms Queue.c01_exactly_once
#print axioms Queue.c01_per_producer_order
#print axioms Queue.c01_only_reports_extra
#print axioms Queue.c01_report_only_without_subscriber
#print axioms Queue.c01_set_subscriber
#print axioms Queue.c01_limiter_bound
#print axioms Queue.c01_limiter_closes
#print axioms Queue.c01_limiter_catchup_violates
#print axioms Queue.c01_retry_variant_violates
#print axioms Queue.c01_requeue_variant_violates
#print axioms Queue.c01_errors_independent
#print axioms Queue.c01_no_lost_wakeup
#print axioms Queue.c01_quiescent_all_delivered
#print axioms Queue.c01_spec_accepts
