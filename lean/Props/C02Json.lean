import Model.Json
/-!
# JSON lemmas for C02: a fragment calculus over the strict recogniser of `Model/Json.lean`

Fragments of compact JSON are characterised by what they do to the recogniser's state:
`IsVal f` — `f` is one complete value (from any "value expected" state to "value complete", stack
unchanged); `IsKey`; `IsMembers f` — `f` is `,"k":v,"k":v…` inside an object; `IsElems f` — `,v,v…`
inside an array; `IsItems f` — `v,v,…` (possibly empty), the inside of an array.
`IsVal`, `IsMembers` and `IsElems` are instances of `Runs f c P c' Q` (over `f`, from context `c` and a mode with `P` to context `c'` and
a mode with `Q`), which is closed under `++`: a text that the formatter builds by appending to a buffer is followed
piece by piece, the fixed pieces by evaluation. Strings produced by `jstr` (serde_json escaping), `itoa` output and
anything satisfying `isNumber` are values.
-/
namespace Json

abbrev Bytes := List Nat

theorem run_append (ws : Bool) (st : St) (a b : Bytes) :
    run ws st (a ++ b) = (run ws st a).bind fun st' => run ws st' b := by
  induction a generalizing st with
  | nil => rfl
  | cons c cs ih =>
    simp only [List.cons_append, run]
    cases step ws st c with
    | none => rfl
    | some st' => exact ih st'

theorem run_append_of {ws : Bool} {st st' : St} {a : Bytes} (h : run ws st a = some st') (b : Bytes) :
    run ws st (a ++ b) = run ws st' b := by
  rw [run_append, h]; rfl

def Done (m : Mode) : Prop := m = .after ∨ ∃ s, m = .num s ∧ s.final = true
def Ready (m : Mode) : Prop := m = .val ∨ m = .valOrClose
def KeyReady (m : Mode) : Prop := m = .key ∨ m = .keyOrClose

theorem done_after : Done .after := Or.inl rfl

theorem step_done {ws : Bool} {stack : List Ctx} {m : Mode} (h : Done m) {c : Nat}
    (hc : c = 44 ∨ c = 93 ∨ c = 125) : step ws ⟨stack, m⟩ c = afterValue stack c := by
  rcases h with rfl | ⟨s, rfl, hs⟩
  · rcases hc with rfl | rfl | rfl <;> simp [step, isWs]
  · rcases hc with rfl | rfl | rfl <;> cases s <;> simp_all [step, numStep, isWs, isDigit, NumSt.final]

def IsVal (f : Bytes) : Prop :=
  ∀ stack m, Ready m → ∃ m', run false ⟨stack, m⟩ f = some ⟨stack, m'⟩ ∧ Done m'

def IsKey (f : Bytes) : Prop :=
  ∀ stack m, KeyReady m → run false ⟨stack, m⟩ f = some ⟨stack, .colon⟩

def IsMembers (f : Bytes) : Prop :=
  ∀ stack m, Done m → ∃ m', run false ⟨.obj :: stack, m⟩ f = some ⟨.obj :: stack, m'⟩ ∧ Done m'

def IsElems (f : Bytes) : Prop :=
  ∀ stack m, Done m → ∃ m', run false ⟨.arr :: stack, m⟩ f = some ⟨.arr :: stack, m'⟩ ∧ Done m'

def IsItems (f : Bytes) : Prop := f = [] ∨ ∃ v rest, f = v ++ rest ∧ IsVal v ∧ IsElems rest

theorem IsVal.ne_nil {f : Bytes} (h : IsVal f) : f ≠ [] := by
  rintro rfl
  obtain ⟨m', hr, hd⟩ := h [] .val (Or.inl rfl)
  simp only [run, Option.some.injEq, St.mk.injEq, true_and] at hr
  subst hr
  rcases hd with h | ⟨s, h, _⟩ <;> cases h

theorem IsMembers.nil : IsMembers [] := fun _ m hm => ⟨m, rfl, hm⟩
theorem IsElems.nil : IsElems [] := fun _ m hm => ⟨m, rfl, hm⟩

/-- `c`, `c'` sit on top of any stack; `IsVal f` is `Runs f [] Ready [] Done`, `IsMembers f` is
`Runs f [.obj] Done [.obj] Done`. -/
def Runs (f : Bytes) (c : List Ctx) (P : Mode → Prop) (c' : List Ctx) (Q : Mode → Prop) : Prop :=
  ∀ stack m, P m → ∃ m', run false ⟨c ++ stack, m⟩ f = some ⟨c' ++ stack, m'⟩ ∧ Q m'

theorem Runs.append {a b : Bytes} {c c' c'' : List Ctx} {P Q R : Mode → Prop}
    (ha : Runs a c P c' Q) (hb : Runs b c' Q c'' R) : Runs (a ++ b) c P c'' R := by
  intro stack m hm
  obtain ⟨m1, h1, q1⟩ := ha stack m hm
  obtain ⟨m2, h2, q2⟩ := hb stack m1 q1
  exact ⟨m2, (run_append_of h1 b).trans h2, q2⟩

theorem IsMembers.append {a b : Bytes} (ha : IsMembers a) (hb : IsMembers b) : IsMembers (a ++ b) :=
  Runs.append (c := [.obj]) (c' := [.obj]) (c'' := [.obj]) ha hb

theorem IsElems.append {a b : Bytes} (ha : IsElems a) (hb : IsElems b) : IsElems (a ++ b) :=
  Runs.append (c := [.arr]) (c' := [.arr]) (c'' := [.arr]) ha hb

theorem IsVal.runs {f : Bytes} (h : IsVal f) (c : List Ctx) : Runs f c Ready c Done :=
  fun stack m hm => h (c ++ stack) m hm

theorem IsMembers.runs {f : Bytes} (h : IsMembers f) (c : List Ctx) : Runs f (.obj :: c) Done (.obj :: c) Done :=
  fun stack m hm => h (c ++ stack) m hm

theorem IsElems.runs {f : Bytes} (h : IsElems f) (c : List Ctx) : Runs f (.arr :: c) Done (.arr :: c) Done :=
  fun stack m hm => h (c ++ stack) m hm

/-- the mode after the items of an array: none, or a complete value -/
def ItemsEnd (m : Mode) : Prop := m = .valOrClose ∨ Done m

theorem IsItems.runs {f : Bytes} (h : IsItems f) (c : List Ctx) :
    Runs f (.arr :: c) (· = .valOrClose) (.arr :: c) ItemsEnd := by
  rintro stack m rfl
  rcases h with rfl | ⟨v, rest, rfl, hv, hr⟩
  · exact ⟨_, rfl, Or.inl rfl⟩
  · obtain ⟨m1, h1, d1⟩ := hv (.arr :: (c ++ stack)) .valOrClose (Or.inr rfl)
    obtain ⟨m2, h2, d2⟩ := hr (c ++ stack) m1 d1
    exact ⟨m2, (run_append_of h1 rest).trans h2, Or.inr d2⟩

/-- a literal where a value is expected: evaluate it from both such modes -/
theorem Runs.open {lit : Bytes} (c c' : List Ctx) (Q : Mode → Prop)
    (h : ∀ stack, ∃ m', (run false ⟨c ++ stack, .val⟩ lit = some ⟨c' ++ stack, m'⟩ ∧
      run false ⟨c ++ stack, .valOrClose⟩ lit = some ⟨c' ++ stack, m'⟩) ∧ Q m') : Runs lit c Ready c' Q := by
  intro stack m hm
  obtain ⟨m', ⟨h1, h2⟩, q⟩ := h stack
  rcases hm with rfl | rfl
  · exact ⟨m', h1, q⟩
  · exact ⟨m', h2, q⟩

/-- a literal that begins with `,` `]` or `}` after a complete value: evaluate it from `.after` -/
theorem Runs.close {d : Nat} {lit : Bytes} (c c' : List Ctx) (Q : Mode → Prop)
    (h : ∀ stack, ∃ m', run false ⟨c ++ stack, .after⟩ (d :: lit) = some ⟨c' ++ stack, m'⟩ ∧ Q m')
    (hd : d = 44 ∨ d = 93 ∨ d = 125 := by decide) : Runs (d :: lit) c Done c' Q := by
  intro stack m hm
  obtain ⟨m', h1, q⟩ := h stack
  refine ⟨m', ?_, q⟩
  rw [← h1]
  simp only [run, step_done hm hd, step_done done_after hd]

theorem Runs.closeArr {lit : Bytes} (c c' : List Ctx) (Q : Mode → Prop)
    (h : ∀ stack, ∃ m', run false ⟨.arr :: (c ++ stack), .after⟩ (93 :: lit) = some ⟨c' ++ stack, m'⟩ ∧ Q m') :
    Runs (93 :: lit) (.arr :: c) ItemsEnd c' Q := by
  intro stack m hm
  rcases hm with rfl | hm
  · exact h stack
  · exact Runs.close (.arr :: c) c' Q h (by decide) stack m hm

/-- `,"k":v` -/
theorem IsMembers.one {k v : Bytes} (hk : IsKey k) (hv : IsVal v) : IsMembers (44 :: (k ++ 58 :: v)) := by
  intro stack m hm
  obtain ⟨m', h2, d2⟩ := hv (.obj :: stack) .val (Or.inl rfl)
  refine ⟨m', ?_, d2⟩
  have h1 := hk (.obj :: stack) .key (Or.inl rfl)
  simp only [run, step_done hm (Or.inl rfl), afterValue, ↓reduceIte]
  rw [run_append_of h1]
  simp only [run, step, isWs, Bool.false_and, Bool.false_eq_true, ↓reduceIte]
  exact h2

/-- `,v` -/
theorem IsElems.one {v : Bytes} (hv : IsVal v) : IsElems (44 :: v) := by
  intro stack m hm
  obtain ⟨m', h2, d2⟩ := hv (.arr :: stack) .val (Or.inl rfl)
  refine ⟨m', ?_, d2⟩
  simp only [run, step_done hm (Or.inl rfl), afterValue, ↓reduceIte]
  exact h2

theorem IsItems.nil : IsItems [] := Or.inl rfl
theorem IsItems.one {v : Bytes} (hv : IsVal v) : IsItems v := Or.inr ⟨v, [], by simp, hv, IsElems.nil⟩

theorem IsItems.push {f v : Bytes} (hf : IsItems f) (hne : f ≠ []) (hv : IsVal v) : IsItems (f ++ 44 :: v) := by
  rcases hf with rfl | ⟨v0, rest, rfl, h0, hr⟩
  · exact absurd rfl hne
  · exact Or.inr ⟨v0, rest ++ 44 :: v, by simp, h0, hr.append (IsElems.one hv)⟩

/-- the comma logic `if !buf.is_empty() { push(',') }; push(v)` -/
theorem IsItems.pushIf {f v : Bytes} (hf : IsItems f) (hv : IsVal v) :
    IsItems (if f = [] then v else f ++ 44 :: v) := by
  split
  · exact IsItems.one hv
  · rename_i hne; exact hf.push hne hv

theorem step_open_arr {stack : List Ctx} {m : Mode} (h : Ready m) :
    step false ⟨stack, m⟩ 91 = some ⟨.arr :: stack, .valOrClose⟩ := by
  rcases h with rfl | rfl <;> simp [step, startValue]

/-- `[` items `]` -/
theorem IsVal.arr {f : Bytes} (hf : IsItems f) : IsVal (91 :: (f ++ [93])) := by
  intro stack m hm
  refine ⟨.after, ?_, done_after⟩
  simp only [run, step_open_arr hm]
  rcases hf with rfl | ⟨v, rest, rfl, hv, hr⟩
  · simp [run, step]
  · obtain ⟨m1, h1, d1⟩ := hv (.arr :: stack) .valOrClose (Or.inr rfl)
    obtain ⟨m2, h2, d2⟩ := hr stack m1 d1
    rw [List.append_assoc, run_append_of h1, run_append_of h2]
    simp only [run, step_done d2 (Or.inr (Or.inl rfl)), afterValue]
    simp

theorem isHex_hexDigit : ∀ n, n < 16 → isHex (hexDigit n) = true := by decide

theorem step_hex {ws : Bool} {stack : List Ctx} {k : Bool} {n c : Nat} (h : isHex c = true) :
    step ws ⟨stack, .hex k n⟩ c =
      match n with | 0 => some ⟨stack, .str k⟩ | n + 1 => some ⟨stack, .hex k n⟩ :=
  if_pos h

theorem step_str {ws : Bool} {stack : List Ctx} {k : Bool} {c : Nat} (h1 : c ≠ 34) (h2 : c ≠ 92)
    (h3 : ¬c < 32) : step ws ⟨stack, .str k⟩ c = some ⟨stack, .str k⟩ :=
  (if_neg h1).trans ((if_neg h2).trans (if_neg h3))

theorem run_escByte (stack : List Ctx) (k : Bool) (c : Nat) :
    run false ⟨stack, .str k⟩ (escByte c) = some ⟨stack, .str k⟩ := by
  by_cases h34 : c = 34; · subst h34; rfl
  by_cases h92 : c = 92; · subst h92; rfl
  by_cases h8 : c = 8; · subst h8; rfl
  by_cases h12 : c = 12; · subst h12; rfl
  by_cases h10 : c = 10; · subst h10; rfl
  by_cases h13 : c = 13; · subst h13; rfl
  by_cases h9 : c = 9; · subst h9; rfl
  simp only [escByte, h34, h92, h8, h12, h10, h13, h9, ↓reduceIte]
  by_cases h32 : c < 32
  · have h1 := isHex_hexDigit (c / 16) (Nat.div_lt_of_lt_mul (Nat.lt_trans h32 (by decide)))
    have h2 := isHex_hexDigit (c % 16) (Nat.mod_lt _ (by decide))
    rw [if_pos h32]
    show run false ⟨stack, .hex k 1⟩ [hexDigit (c / 16), hexDigit (c % 16)] = _
    simp only [run, step_hex h1, step_hex h2]
  · simp only [if_neg h32, run, step_str h34 h92 h32]

/-- an escaped string contains no raw quote, no raw control byte (in particular no raw newline), and
every backslash starts a valid escape: the recogniser, inside a string, stays inside the string over the
whole of `escape s`. -/
theorem escape_stays_in_string (stack : List Ctx) (k : Bool) (s : Bytes) :
    run false ⟨stack, .str k⟩ (escape s) = some ⟨stack, .str k⟩ := by
  induction s with
  | nil => rfl
  | cons c cs ih =>
    simp only [escape, List.flatMap_cons] at ih ⊢
    rw [run_append_of (run_escByte stack k c)]
    exact ih

theorem IsVal.jstr (s : Bytes) : IsVal (jstr s) := by
  intro stack m hm
  refine ⟨.after, ?_, done_after⟩
  have h0 : step false ⟨stack, m⟩ 34 = some ⟨stack, .str false⟩ := by
    rcases hm with rfl | rfl <;> simp [step, startValue]
  simp only [Json.jstr, run, h0]
  rw [run_append_of (escape_stays_in_string stack false s)]
  simp [run, step, afterStr]

theorem IsKey.jstr (s : Bytes) : IsKey (jstr s) := by
  intro stack m hm
  have h0 : step false ⟨stack, m⟩ 34 = some ⟨stack, .str true⟩ := by
    rcases hm with rfl | rfl <;> simp [step]
  simp only [Json.jstr, run, h0]
  rw [run_append_of (escape_stays_in_string stack true s)]
  simp [run, step, afterStr]

theorem run_num (stack : List Ctx) (s s' : NumSt) (cs : Bytes) (h : numRun s cs = some s') :
    run false ⟨stack, .num s⟩ cs = some ⟨stack, .num s'⟩ := by
  induction cs generalizing s with
  | nil => simp only [numRun, Option.some.injEq] at h; subst h; rfl
  | cons c cs ih =>
    simp only [numRun] at h
    cases hs : numStep s c with
    | none => simp [hs] at h
    | some s1 =>
      simp only [hs] at h
      simp only [run, step, hs]
      exact ih s1 h

theorem numStart_some {c : Nat} {s : NumSt} (h : numStart c = some s) : c = 45 ∨ (48 ≤ c ∧ c ≤ 57) := by
  unfold numStart at h
  split at h
  · left; assumption
  · split at h
    · right; omega
    · split at h
      · rename_i hd; simp [isDigit] at hd; right; omega
      · cases h

theorem IsVal.number {t : Bytes} (h : isNumber t = true) : IsVal t := by
  cases t with
  | nil => simp [isNumber] at h
  | cons c cs =>
    simp only [isNumber] at h
    cases hs : numStart c with
    | none => simp [hs] at h
    | some s0 =>
      simp only [hs] at h
      cases hr : numRun s0 cs with
      | none => simp [hr] at h
      | some s' =>
        simp only [hr] at h
        intro stack m hm
        refine ⟨.num s', ?_, Or.inr ⟨s', rfl, h⟩⟩
        have hc := numStart_some hs
        have h0 : step false ⟨stack, m⟩ c = some ⟨stack, .num s0⟩ := by
          have ⟨e1, e2, e3, e4, e5, e6, e7⟩ :
              c ≠ 34 ∧ c ≠ 91 ∧ c ≠ 123 ∧ c ≠ 116 ∧ c ≠ 102 ∧ c ≠ 110 ∧ c ≠ 93 := by omega
          rcases hm with rfl | rfl <;> simp [step, startValue, e1, e2, e3, e4, e5, e6, e7, hs]
        simp only [run, h0]
        exact run_num stack s0 s' cs hr

theorem numRun_int_digits (ds : Bytes) (h : ∀ d ∈ ds, isDigit d = true) : numRun .int ds = some .int := by
  induction ds with
  | nil => rfl
  | cons d ds ih =>
    have hd := h d (by simp)
    simp only [numRun, numStep, hd, ↓reduceIte]
    exact ih fun x hx => h x (by simp [hx])

theorem digitsAux_spec (fuel n : Nat) (acc : Bytes) (hle : n ≤ fuel) :
    ∃ d ds, digitsAux fuel n acc = d :: (ds ++ acc) ∧ isDigit d = true ∧ (∀ x ∈ ds, isDigit x = true) ∧
      (0 < n → d ≠ 48) ∧ (n = 0 → ds = []) := by
  induction fuel generalizing n acc with
  | zero =>
    have : n = 0 := by omega
    subst this
    exact ⟨48, [], by simp [digitsAux], by decide, by simp, by omega, fun _ => rfl⟩
  | succ fuel ih =>
    unfold digitsAux
    split
    · rename_i hlt
      refine ⟨48 + n, [], by simp, ?_, by simp, by omega, fun _ => rfl⟩
      simp [isDigit]; omega
    · rename_i hge
      obtain ⟨d, ds, he, hd, hds, hpos, _⟩ := ih (n / 10) ((48 + n % 10) :: acc) (by omega)
      refine ⟨d, ds ++ [48 + n % 10], by rw [he]; simp, hd, ?_, fun _ => hpos (by omega), by omega⟩
      intro x hx
      rcases List.mem_append.mp hx with h | h
      · exact hds x h
      · simp only [List.mem_singleton] at h; subst h; simp [isDigit]; omega

theorem numStart_pos_digit {d : Nat} (h1 : 49 ≤ d) (h2 : d ≤ 57) : numStart d = some .int := by
  have a : d ≠ 45 := by omega
  have b : d ≠ 48 := by omega
  have c : isDigit d = true := by simp [isDigit]; omega
  simp [numStart, a, b, c]

/-- `itoa` output is a JSON number (an integer: digits only, no leading zero) -/
theorem isNumber_natDigits (n : Nat) : isNumber (natDigits n) = true := by
  obtain ⟨d, ds, he, hd, hds, hpos, hzero⟩ := digitsAux_spec n n [] (Nat.le_refl n)
  simp only [natDigits, he, List.append_nil, isNumber]
  by_cases h0 : n = 0
  · have := hzero h0; subst this
    have : d = 48 ∨ d ≠ 48 := by omega
    rcases this with rfl | hne
    · rfl
    · have h1 : numStart d = some .int := by
        simp [isDigit] at hd; exact numStart_pos_digit (by omega) (by omega)
      simp [h1, numRun, NumSt.final]
  · have hne := hpos (by omega)
    have h1 : numStart d = some .int := by
      simp [isDigit] at hd; exact numStart_pos_digit (by omega) (by omega)
    simp [h1, numRun_int_digits ds hds, NumSt.final]

theorem natDigits_all_digits (n : Nat) : ∀ x ∈ natDigits n, isDigit x = true := by
  obtain ⟨d, ds, he, hd, hds, _, _⟩ := digitsAux_spec n n [] (Nat.le_refl n)
  simp only [natDigits, he, List.append_nil]
  intro x hx
  rcases List.mem_cons.mp hx with rfl | h
  · exact hd
  · exact hds x h

theorem IsVal.natDigits (n : Nat) : IsVal (natDigits n) := IsVal.number (isNumber_natDigits n)

theorem sepBy_ne_nil {sep x : Bytes} (r : List Bytes) (h : x ≠ []) : Json.sepBy sep (x :: r) ≠ [] := by
  cases r <;> simp [Json.sepBy, h]

theorem sepBy_cons_flat (d : List Nat) (rest : List (List Nat)) :
    sepBy [44] (d :: rest) = d ++ (rest.map fun x => 44 :: x).flatten := by
  induction rest generalizing d with
  | nil => simp [sepBy]
  | cons y ys ih => simp [sepBy, ih y]

theorem IsItems.sepBy {vs : List Bytes} (h : ∀ v ∈ vs, IsVal v) : IsItems (sepBy [44] vs) := by
  induction vs with
  | nil => exact IsItems.nil
  | cons v rest ih =>
    cases rest with
    | nil => exact IsItems.one (h v (by simp))
    | cons w rest' =>
      have hv := h v (by simp)
      have ih' := ih fun x hx => h x (by simp [hx])
      have hne : Json.sepBy [44] (w :: rest') ≠ [] := sepBy_ne_nil rest' (h w (by simp)).ne_nil
      show IsItems (v ++ [44] ++ Json.sepBy [44] (w :: rest'))
      rcases ih' with hnil | ⟨v0, r0, he, h0, hr0⟩
      · exact absurd hnil hne
      · rw [he]
        refine Or.inr ⟨v, 44 :: (v0 ++ r0), by simp, hv, ?_⟩
        have := (IsElems.one h0).append hr0
        simpa using this

theorem IsItems.sepBy_map {α : Type} {f : α → Bytes} (l : List α) (h : ∀ x ∈ l, IsVal (f x)) :
    IsItems (Json.sepBy [44] (l.map f)) :=
  IsItems.sepBy fun v hv => by
    obtain ⟨x, hx, rfl⟩ := List.mem_map.mp hv
    exact h x hx

theorem isWs_cases {c : Nat} (h : isWs c = true) : c = 32 ∨ c = 9 ∨ c = 10 ∨ c = 13 := by
  simpa only [isWs, Bool.or_eq_true, decide_eq_true_eq, or_assoc] using h

theorem afterValue_ws (stack : List Ctx) {c : Nat} (h : isWs c = true) : afterValue stack c = none := by
  rcases isWs_cases h with rfl | rfl | rfl | rfl <;> rcases stack with _ | ⟨_ | _, _⟩ <;> rfl

theorem numStep_ws (s : NumSt) {c : Nat} (h : isWs c = true) : numStep s c = none := by
  rcases isWs_cases h with rfl | rfl | rfl | rfl <;> cases s <;> rfl

theorem litStep_ws (s : LitSt) {c : Nat} (h : isWs c = true) : litStep s c = none := by
  rcases isWs_cases h with rfl | rfl | rfl | rfl <;> cases s <;> rfl

/-- outside a string, compact mode rejects whitespace -/
theorem step_ws_none (stack : List Ctx) (mode : Mode) {c : Nat} (h : isWs c = true) :
    step false ⟨stack, mode⟩ c = none ∨ ∃ k, mode = .str k := by
  cases mode with
  | str k => exact Or.inr ⟨k, rfl⟩
  | after => exact Or.inl (afterValue_ws stack h)
  | num s =>
    left
    simp only [step, numStep_ws s h, afterValue_ws stack h, Bool.false_and, Bool.false_eq_true, ite_self, if_false]
  | lit s => left; simp only [step, litStep_ws s h]
  | _ => left; rcases isWs_cases h with rfl | rfl | rfl | rfl <;> rfl

theorem step_compact_nl (st : St) : step false st 10 = none := by
  obtain ⟨stack, mode⟩ := st
  rcases step_ws_none stack mode (c := 10) rfl with h | ⟨k, rfl⟩
  · exact h
  · rfl

theorem run_compact_no_nl {st st' : St} {bs : Bytes} (h : run false st bs = some st') : 10 ∉ bs := by
  induction bs generalizing st with
  | nil => simp
  | cons c cs ih =>
    simp only [run] at h
    cases hs : step false st c with
    | none => simp [hs] at h
    | some st1 =>
      simp only [hs] at h
      intro hm
      rcases List.mem_cons.mp hm with rfl | hm'
      · rw [step_compact_nl] at hs; cases hs
      · exact ih h hm'

/-- whitespace is only ever *additionally* accepted -/
theorem step_mono {st st' : St} {c : Nat} (h : step false st c = some st') : step true st c = some st' := by
  obtain ⟨stack, mode⟩ := st
  cases hw : isWs c with
  | true =>
    rcases step_ws_none stack mode hw with hn | ⟨k, rfl⟩
    · rw [hn] at h; cases h
    · exact h
  | false =>
    rw [← h]
    unfold step
    simp only [hw, Bool.and_false]

theorem run_mono {st st' : St} {bs : Bytes} (h : run false st bs = some st') : run true st bs = some st' := by
  induction bs generalizing st with
  | nil => exact h
  | cons c cs ih =>
    simp only [run] at h ⊢
    cases hs : step false st c with
    | none => simp [hs] at h
    | some st1 =>
      simp only [hs] at h
      rw [step_mono hs]
      exact ih h

theorem IsVal.acceptsCompact {f : Bytes} (h : IsVal f) : acceptsCompact f = true := by
  obtain ⟨m', hr, hd⟩ := h [] .val (Or.inl rfl)
  simp only [Json.acceptsCompact, start, hr, St.done, List.isEmpty_nil, Bool.true_and]
  rcases hd with rfl | ⟨s, rfl, hs⟩
  · rfl
  · exact hs

/-- a compact JSON text followed by one newline is a JSON text (RFC 8259), and the only raw
newline in it is the final one -/
theorem acceptsCompact_line {body : Bytes} (h : acceptsCompact body = true) :
    accepts (body ++ [10]) = true ∧ 10 ∉ body := by
  simp only [Json.acceptsCompact] at h
  cases hr : run false start body with
  | none => simp [hr] at h
  | some st =>
    simp only [hr] at h
    refine ⟨?_, run_compact_no_nl hr⟩
    simp only [Json.accepts, run_append_of (run_mono hr)]
    obtain ⟨stack, mode⟩ := st
    simp only [St.done, List.isEmpty_iff, Bool.and_eq_true] at h
    obtain ⟨rfl, hm⟩ := h
    cases mode with
    | after => simp [run, step, isWs, St.done]
    | num s => 
      simp only at hm
      cases s <;> simp_all [run, step, numStep, isWs, isDigit, St.done, NumSt.final]
    | _ => simp at hm

end Json
