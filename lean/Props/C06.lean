import Props.C06Lemmas
/-!
# C06 — a unit-of-work entry is closed and appended exactly once, at the right moment

Theorems about the micro-step transition system `KeepAlive.step` (model of `keep_alive.rs`,
`AppendAndCloseOnDrop`, handles, flush guards, force-flush guards; `lean/Model/KeepAlive.lean`).
`Reachable cfg s` quantifies over *every* schedule: any number of handles, flush guards, force-flush
guards and slot guards, created and dropped in any order (guards may be created after a force-flush
guard was dropped), every drop split into its atomic reference-count operations and those of different
threads interleaved arbitrarily.

Reading of the state: `hS` = owning references (the owner or its handles) whose drop has not begun;
`fgLive` = flush guards (free or stored in a slot guard) whose drop has not begun; `dgBegun` / `dgDone` =
force-flush guards whose drop has begun / returned; `inFlight s` = some drop has begun and not returned;
`appended` = what the sink received; `atDrop` = the entry's own fields at the instant the last owning
reference began to drop.
-/
namespace KeepAlive

variable {cfg : List (Bool × Nat)} {s s' : St}

/-- **C06 never twice.** In every reachable state the sink has received at most one entry. -/
theorem c06_at_most_once (hr : Reachable cfg s) : s.appended.length ≤ 1 :=
  (inv_reachable hr).appended_le_one

@[simp] theorem relG_frozen (k : Kind) (s : St) :
    (relG k s).appended = s.appended ∧ (relG k s).hS = s.hS ∧ (relG k s).atDrop = s.atDrop ∧
    (relG k s).plain = s.plain ∧ (relG k s).hits = s.hits ∧ (relG k s).fgLive = s.fgLive ∧
    (relG k s).dgBegun = s.dgBegun ∧ (relG k s).slots = s.slots := by
  unfold relG; split <;> simp

@[simp] theorem dropFG_fields (s : St) : (dropFG s).fgLive = s.fgLive - 1 ∧ (dropFG s).slots = s.slots ∧
    (dropFG s).appended = s.appended := by
  simp [dropFG]

theorem step_frame {e : Ev} (h : step s e = some s') :
    (0 < s.hS ∨ (s'.hS = s.hS ∧ s'.atDrop = s.atDrop ∧ s'.plain = s.plain ∧ s'.hits = s.hits ∧ s'.fgLive ≤ s.fgLive)) ∧
    s.dgBegun ≤ s'.dgBegun ∧ (e = .emit ∨ s'.appended = s.appended) := by
  cases step_cases h with
  | newFG hu | mutate _ hu => exact ⟨Or.inl (ownerUsable_iff.1 hu).1, Nat.le_refl _, Or.inr rfl⟩
  | hit _ hu | cloneHandle hu | refDropLast hu | refDrop hu => exact ⟨Or.inl hu.1, Nat.le_refl _, Or.inr rfl⟩
  | dgBeginDead | dgBegin => exact ⟨Or.inr ⟨rfl, rfl, rfl, rfl, Nat.le_refl _⟩, Nat.le_succ _, Or.inr rfl⟩
  | emit => exact ⟨Or.inr ⟨rfl, rfl, rfl, rfl, Nat.le_refl _⟩, Nat.le_refl _, Or.inl rfl⟩
  | fgDrop | dgDec | pDecG | openAgainWait | delayAgain | gReleaseWait => simp [dropFG, setSlot]
  | _ => exact ⟨Or.inr ⟨rfl, rfl, rfl, rfl, Nat.le_refl _⟩, Nat.le_refl _, Or.inr rfl⟩

theorem appended_unchanged {e : Ev} (h : step s e = some s') (he : e ≠ .emit) : s'.appended = s.appended :=
  (step_frame h).2.2.resolve_left he

theorem vS_zero_cond (hi : Inv s) (hv : s.vS = 0) : s.hS = 0 ∧ (s.fgLive = 0 ∨ s.dgBegun > 0) := by
  have hvc := hi.vcount
  have hc : s.closure = false := by cases hc : s.closure <;> simp_all [b2n]
  have hp : ¬s.pPc = .idle := fun hp => by rw [hp, hv] at hvc; simp only [pV] at hvc; omega
  refine ⟨Nat.eq_zero_of_not_pos (mt hi.hpc.1 hp), (hi.forced hc).symm.imp_left fun hg => ?_⟩
  have := hi.gcount; omega

theorem vS_pos_cond (hi : Inv s) (hv : 0 < s.vS) : anyApp s = false ∧ s.appended = [] := by
  refine ⟨Bool.eq_false_iff.2 fun ha => ?_, List.eq_nil_of_length_eq_zero (by have := hi.apps1 hv; omega)⟩
  have := (one_app hi ha).1; omega

theorem anyApp_cond_inv (hi : Inv s) (ha : anyApp s = true) : s.hS = 0 ∧ (s.fgLive = 0 ∨ s.dgBegun > 0) :=
  vS_zero_cond hi (one_app hi ha).1

/-- **C06 never early.** A step that makes the sink receive the entry — and likewise a step that closes one
of its fields — is enabled only in a state where the owner and every handle have begun to drop (`hS = 0`)
and either every flush guard has begun to drop (`fgLive = 0`) or some force-flush guard has begun to drop. -/
theorem c06_not_early {e : Ev} (hr : Reachable cfg s) (h : step s e = some s')
    (hch : s'.appended ≠ s.appended ∨ e = .closeSlot) :
    s.hS = 0 ∧ (s.fgLive = 0 ∨ s.dgBegun > 0) := by
  have ha : anyApp s = true := by
    rcases hch with hch | rfl
    · obtain rfl := (step_frame h).2.2.resolve_right hch
      cases step_cases h with | emit hg => exact hg.1
    · cases step_cases h with | closeSlot l ha => exact ha
  exact anyApp_cond_inv (inv_reachable hr) ha

/-- the closure has been taken and completely run (or dropped) and nobody is inside the destructor on its behalf -/
def closureDone (s : St) : Prop := s.closure = false ∧ s.lPc ≠ .run ∧ s.lPc ≠ .app ∧ s.iPc ≠ .app

theorem closureDone_appended (hi : Inv s) (hd : closureDone s) (hown : s.pPc = .done) : s.appended.length = 1 := by
  obtain ⟨c1, c2, c3, c4⟩ := hd
  have hv := hi.vcount
  have hl : lV s.lPc = 0 := by cases h : s.lPc <;> simp_all [lV]
  -- the value count is 0, and no thread is in the destructor
  have h0 := hi.apps0 (by simp only [hv, hown, c1, hl, pV, b2n_false])
  have : lA s.lPc = 0 := by cases h : s.lPc <;> simp_all [lA]
  have : iA s.iPc = 0 := by cases h : s.iPc <;> simp_all [iA]
  simp only [nApp, hown, pA] at h0
  omega

theorem not_late_inv (hi : Inv s) (hq : inFlight s = false) (hown : s.hS = 0)
    (hg : s.fgLive = 0 ∨ s.dgDone > 0) : s.appended.length = 1 := by
  simp [inFlight] at hq
  obtain ⟨⟨⟨⟨⟨hp, hip⟩, hu⟩, hl⟩, hd⟩, -⟩ := hq
  have hp : s.pPc = .done := hp fun h => by have := hi.hpc.2 h; omega
  have hlock : s.lock = false := Bool.eq_false_iff.2 fun h => hi.lockpc.1 h hl
  -- the closure is gone: dropped with the last reference on the guard cell, or taken by a force-flush guard
  have hc : s.closure = false ∨ s.gS = 0 := hg.elim
    (fun hf => Or.inr (by have := hi.gcount; simp only [hp, pG, hlock, b2n_false] at this; omega)) hi.dgdone
  have hc : s.closure = false := hc.elim id fun h0 => hi.iclos (Or.inr (hip (hi.izero.2 h0)))
  exact closureDone_appended hi ⟨hc, by simp [hl], by simp [hl], fun h => by simp [h] at hip⟩ hp

/-- **C06 never not at all.** In every reachable state in which no drop is in flight, the owner and every
handle have been dropped, and either every flush guard has been dropped or some force-flush guard has been
dropped (its drop has returned), the sink has received exactly one entry.

(Without "no drop is in flight" the statement is false in the model and in the code, harmlessly: see the two
`example`s below — a force-flush guard's drop can return while the thread that dropped the last flush
guard is still running the entry's destructor, and vice versa.  The entry is then being appended by that
other thread.) -/
theorem c06_not_late (hr : Reachable cfg s) (hq : inFlight s = false) (hown : s.hS = 0)
    (hg : s.fgLive = 0 ∨ s.dgDone > 0) : s.appended.length = 1 :=
  not_late_inv (inv_reachable hr) hq hown hg

/-- **C06 late guards never delay.** In every reachable state in which some force-flush guard's drop has returned
(`dgDone > 0`) the flush guards, however many are alive, hold nothing: the closure that kept the entry alive is gone
or the guard cell is dead … -/
theorem c06_late_guards_hold_nothing (hr : Reachable cfg s) (hd : s.dgDone > 0) :
    s.closure = false ∨ s.gS = 0 :=
  (inv_reachable hr).dgdone hd

/-- … so in such a state the entry has been appended if the owner and all handles are gone and nothing is in flight,
whatever the number `fgLive` of flush guards still alive. -/
theorem c06_late_guards_harmless (hr : Reachable cfg s) (hd : s.dgDone > 0) (hown : s.hS = 0)
    (hq : inFlight s = false) : s.appended.length = 1 :=
  c06_not_late hr hq hown (Or.inr hd)

theorem frozen_run {es : List Ev} (h : run s es = some s') (h0 : s.hS = 0) :
    s'.hS = 0 ∧ s'.atDrop = s.atDrop :=
  run_induction (P := fun t => t.hS = 0 ∧ t.atDrop = s.atDrop)
    (fun ht h => by
      obtain ⟨a, b, -⟩ := (step_frame h).1.resolve_left (by omega)
      exact ⟨a.trans ht.1, b.trans ht.2⟩) ⟨h0, rfl⟩ h

/-- **C06 content.** Let `s` be any reachable state in which one owning reference is left, let that
reference begin to drop, and let any schedule follow: every entry the sink ever receives carries the
entry's own fields (`plain`: written through `&mut`, `hits`: written through `&self`, possibly via a
handle) exactly as they were when that drop began — every mutation made before, none after. -/
theorem c06_content {s1 s2 : St} {es : List Ev} {a : Appended} (hr : Reachable cfg s) (h1 : s.hS = 1)
    (hd : step s .refDrop = some s1) (hrun : run s1 es = some s2) (ha : a ∈ s2.appended) :
    a.plain = s.plain ∧ a.hits = s.hits := by
  have hr1 : Reachable cfg s1 := Reachable.step _ hr hd
  have hr2 : Reachable cfg s2 := reachable_run es hr1 hrun
  have hat : s1.atDrop = some (s.plain, s.hits) ∧ s1.hS = 0 := by
    cases step_cases hd with
    | refDropLast => exact ⟨rfl, rfl⟩
    | refDrop _ hn => exact absurd h1 hn
  obtain ⟨-, hfz⟩ := frozen_run hrun hat.2
  have := (inv_reachable hr2).appval a ha
  rw [hfz, hat.1] at this
  simp at this
  exact ⟨this.1.symm, this.2.symm⟩

/-- in every reachable state the own fields of the sink's entry (if any) are the snapshot `atDrop` -/
theorem c06_content_snapshot (hr : Reachable cfg s) {a : Appended} (ha : a ∈ s.appended) :
    s.atDrop = some (a.plain, a.hits) :=
  (inv_reachable hr).appval a ha

theorem closeFirst_some {l : List Slot} (h : allClosed l = false) : ∃ l', closeFirst l = some l' := by
  induction l with
  | nil => simp [allClosed] at h
  | cons a r ih =>
    simp only [closeFirst]
    by_cases ha : a.closedAs.isNone
    · simp [ha]
    · simp only [ha]
      have : allClosed r = false := by
        simp only [allClosed, List.all_cons, Bool.and_eq_false_iff] at h
        rcases h with h | h
        · cases hc : a.closedAs <;> simp_all
        · exact h
      obtain ⟨l', hl⟩ := ih this
      exact ⟨a :: l', by simp [hl]⟩

/-- the steps a thread takes inside a drop it has begun -/
def continuation (e : Ev) : Prop := e ∈ internal ∨ ∃ i, e = .gRelease i

theorem app_enabled (ha : anyApp s = true) : (step s .closeSlot).isSome = true ∨ (step s .emit).isSome = true := by
  cases hc : allClosed s.slots with
  | true => right; simp only [step, ha, hc]; simp
  | false =>
    left
    obtain ⟨l', hl⟩ := closeFirst_some hc
    simp only [step, ha, hl]; simp

/-- **C06 no deadlock.** Whenever some drop is in flight, some thread inside a drop can take its next step
(the mutex inside `DropAll::drop` never blocks everybody; the entry's destructor is total — in particular
`Slot::close` has a result in every reachable state, C13). -/
theorem c06_progress (hr : Reachable cfg s) (hf : inFlight s = true) :
    ∃ e, continuation e ∧ (step s e).isSome = true := by
  have hi := inv_reachable hr
  have int : ∀ e, e ∈ internal → (step s e).isSome = true → ∃ e, continuation e ∧ (step s e).isSome = true :=
    fun e hm h => ⟨e, Or.inl hm, h⟩
  have happ : anyApp s = true → ∃ e, continuation e ∧ (step s e).isSome = true := fun ha =>
    (app_enabled ha).elim (int .closeSlot (by decide)) (int .emit (by decide))
  have hlock : s.lPc ≠ .free → ∃ e, continuation e ∧ (step s e).isSome = true := by
    intro hl
    cases hp : s.lPc with
    | free => exact absurd hp hl
    | run => exact int .lRun (by decide) (by simp [step, hp])
    | app => exact happ (by simp [anyApp, hp])
    | unlock => exact int .lUnlock (by decide) (by simp [step, hp])
  simp only [inFlight, Bool.or_eq_true, Bool.and_eq_true, decide_eq_true_eq] at hf
  rcases hf with ((((hf | hf) | hf) | hf) | hf) | hf
  · cases hp : s.pPc with
    | idle => simp [hp] at hf
    | done => simp [hp] at hf
    | decV => exact int .pDecV (by decide) (by simp [step, hp])
    | app => exact happ (by simp [anyApp, hp])
    | decG => exact int .pDecG (by decide) (by simp [step, hp])
  · cases hp : s.iPc with
    | idle => simp [hp] at hf
    | done => simp [hp] at hf
    | pending =>
      exact int .innerDrop (by decide) (by simp [step, hp, apply_ite Option.isSome])
    | app => exact happ (by simp [anyApp, hp])
  · by_cases hl : s.lock = true
    · exact hlock (hi.lockpc.mp hl)
    · exact int .dgLock (by decide) (by simp [step, hf, Bool.eq_false_iff.2 hl, apply_ite Option.isSome])
  · exact hlock (by simpa using hf)
  · exact int .dgDec (by decide) (by simp only [step]; simp [hf])
  · obtain ⟨sl, hm, hg⟩ := List.any_eq_true.1 hf
    obtain ⟨i, h1⟩ := List.getElem?_of_mem hm
    have h2 : sl.g = .sent := of_decide_eq_true hg
    exact ⟨.gRelease i, Or.inr ⟨i, rfl⟩, by simp only [step, h1, h2]; simp⟩

/-! ## The strengthened "not late": a force-flush drop that has left the mutex

`DropAll::drop` takes the closure **and runs it** under the guard cell's mutex (`dgLock`, `lRun`, possibly the whole
destructor, then `lUnlock`).  So a second force-flush guard's drop cannot get past `dgLock` while the first is between
taking and having run the closure, and `closureDone` is preserved by every step: once *any* force-flush drop has left
its critical section, the closure's reference on the value cell is gone for good and nobody is still about to release
it.  No quiescence hypothesis is needed then.  (Specification clause `Spec.forceLate`.) -/

theorem closureDone_relG (k : Kind) (hd : closureDone s) : closureDone (relG k s) := by
  obtain ⟨h1, h2, h3, h4⟩ := hd
  unfold relG; split <;> simp_all [closureDone]

theorem closureDone_step {e : Ev} (h : step s e = some s') (hd : closureDone s) : closureDone s' := by
  cases step_cases h with
  | fgDrop | dgDec | pDecG | openAgainWait | delayAgain | gReleaseWait => exact closureDone_relG _ hd
  | dgLockTake | dgLock | lRun | lUnlock | innerDropLast | innerDropMore | innerDrop | emit =>
    simp_all [closureDone, finishInner]
  | _ => exact hd

/-- **C06 a force-flush drop that has left the mutex is never overtaken.** Take any reachable state in which a
force-flush guard's thread releases the mutex (`lUnlock`: its `DropAll::drop` is about to return), and any later
schedule: in every later state in which the owner's (last owning reference's) drop has returned, the entry has been
appended — no matter which flush guards are still alive and which other drops are in flight.  In particular another
force-flush guard's drop cannot return before the append unless the owner is still there. -/
theorem c06_force_return_appended {s1 s2 : St} {es : List Ev} (hr : Reachable cfg s)
    (hu : step s .lUnlock = some s1) (hrun : run s1 es = some s2) (hown : s2.pPc = .done) :
    s2.appended.length = 1 := by
  have hi := inv_reachable hr
  have hr1 : Reachable cfg s1 := Reachable.step _ hr hu
  have hd1 : closureDone s1 := by
    cases step_cases hu with | lUnlock hl =>
    have hne : s.lPc ≠ .free := by simp [hl]
    refine ⟨hi.lclos (Or.inl hne), by simp, by simp, fun hip => ?_⟩
    -- the mutex holder still has its reference on the guard cell
    have hg := hi.gcount
    have : s.gS = 0 := hi.izero.mp (by simp [show s.iPc = .app from hip])
    simp [hi.lockpc.mpr hne] at hg
    omega
  exact closureDone_appended (inv_reachable (reachable_run es hr1 hrun)) (run_induction (fun hd h => closureDone_step h hd) hd1 hrun) hown

/-- the corresponding state invariant: closure completely done ∧ owner's drop returned ⇒ appended -/
theorem c06_closure_done_appended (hr : Reachable cfg s) (hd : closureDone s) (hown : s.pPc = .done) :
    s.appended.length = 1 :=
  closureDone_appended (inv_reachable hr) hd hown

/-! ### A non-atomic variant violates it

Variant of the model in which `DropAll::drop` takes the closure under the mutex but runs it *after* releasing the
mutex (seeded change C06-h).  `naTake` = lock; take; unlock (the thread now holds the taken closure outside the lock);
`naRun` = run it (release the value reference; append if it was the last; then the thread is where `lUnlock` leaves
it).  Every other event is the original `step`. -/

structure StNA where
  base : St
  /-- threads holding a taken closure outside the mutex -/
  holding : Nat := 0
  deriving DecidableEq, Repr

inductive EvNA where
  | ev (e : Ev) | naTake | naRun
  deriving DecidableEq, Repr

def stepNA (t : StNA) : EvNA → Option StNA
  | .ev e => (step t.base e).map fun b => { t with base := b }
  | .naTake =>
    if t.base.nUp > 0 ∧ t.base.lock = false ∧ t.base.closure = true then
      some { base := { t.base with nUp := t.base.nUp - 1, closure := false, nDec := t.base.nDec + 1 }, holding := t.holding + 1 }
    else none
  | .naRun =>
    if t.holding > 0 then
      let b := t.base
      if b.vS - 1 = 0 then
        some { base := { b with vS := 0, appended := b.appended ++ [⟨b.plain, b.hits, closedVals b.slots⟩] }, holding := t.holding - 1 }
      else some { base := { b with vS := b.vS - 1 }, holding := t.holding - 1 }
    else none

def runNA (t : StNA) : List EvNA → Option StNA
  | [] => some t
  | e :: es => match stepNA t e with
    | none => none
    | some t' => runNA t' es

/-- the witness (the gated schedule of the harness): owner dropped, one flush guard alive, two force-flush guards;
the first thread takes the closure and is held before running it; the second thread's drop goes through the (free)
mutex, finds nothing and **returns** (`lUnlock`, `dgDec`): the owner's drop has returned, a force-flush drop has left
the mutex, and nothing has been appended — `c06_force_return_appended`'s conclusion fails in the variant.  In the
original model the second `dgLock` is simply not enabled at that point (next example). -/
example : (runNA { base := init [] } [.ev .newFG, .ev .newDG, .ev .newDG, .ev .refDrop, .ev .pDecV, .ev .pDecG,
            .ev .dgBegin, .ev .dgBegin, .naTake, .ev .dgLock, .ev .lUnlock, .ev .dgDec]).map
      (fun t => (t.base.pPc, t.base.dgDone, t.base.fgLive, t.base.appended.length, t.holding))
    = some (.done, 1, 1, 0, 1) := by decide

/-- original model, same situation: while the first thread is between take and run it holds the mutex, the second
thread cannot proceed (`dgLock` not enabled); after the first has run the closure (and appended) it can. -/
example : (run (init []) [.newFG, .newDG, .newDG, .refDrop, .pDecV, .pDecG, .dgBegin, .dgBegin, .dgLock]).map
      (fun s => ((step s .dgLock).isSome, s.lPc, s.appended.length))
    = some (false, .run, 0) := by decide

example : (run (init []) [.newFG, .newDG, .newDG, .refDrop, .pDecV, .pDecG, .dgBegin, .dgBegin, .dgLock, .lRun,
            .emit, .lUnlock, .dgLock, .lUnlock, .dgDec]).map (fun s => (s.dgDone, s.fgLive, s.appended.length))
    = some (1, 1, 1) := by decide

/-- a racing schedule: one flush guard, one force-flush guard; the owner's thread is between its two field
drops when the force-flush guard's thread takes the closure; the flush guard is still alive at the end and
the entry has been appended exactly once, with the last written contents, by the force-flush thread. -/
example : (run (init []) [.newFG, .newDG, .mutate 7, .hit 5, .refDrop, .dgBegin, .pDecV, .dgLock, .pDecG,
            .lRun, .emit, .lUnlock, .dgDec]).map (fun s => (s.appended, s.fgLive, inFlight s, s.hS, s.dgDone))
    = some ([⟨7, 5, []⟩], 1, false, 0, 1) := by decide

/-- a guard created after a completed force-flush does not delay the append -/
example : (run (init []) [.newDG, .dgBegin, .dgLock, .lRun, .lUnlock, .dgDec, .newFG, .newFG, .refDrop,
            .pDecV, .emit, .pDecG]).map (fun s => (s.appended.length, s.fgLive, inFlight s))
    = some (1, 2, false) := by decide

/-- why `c06_not_late` needs "nothing in flight" (1): the owner and a force-flush guard have been dropped
completely, the thread that dropped the last flush guard has not yet run the closure: nothing appended yet. -/
example : (run (init []) [.newFG, .newDG, .refDrop, .pDecV, .pDecG, .fgDrop, .dgBegin]).map
      (fun s => (s.appended.length, s.hS, s.pPc, s.dgDone, inFlight s))
    = some (0, 0, .done, 1, true) := by decide

/-- why `c06_not_late` needs "nothing in flight" (2): the owner and every flush guard have been dropped
completely, a force-flush guard's thread holds the taken closure: nothing appended yet. -/
example : (run (init []) [.newFG, .newDG, .dgBegin, .dgLock, .refDrop, .pDecV, .pDecG, .fgDrop]).map
      (fun s => (s.appended.length, s.hS, s.pPc, s.fgLive, inFlight s))
    = some (0, 0, .done, 0, true) := by decide

end KeepAlive

#print axioms KeepAlive.c06_at_most_once
#print axioms KeepAlive.c06_not_early
#print axioms KeepAlive.c06_not_late
#print axioms KeepAlive.c06_late_guards_hold_nothing
#print axioms KeepAlive.c06_late_guards_harmless
#print axioms KeepAlive.c06_content
#print axioms KeepAlive.c06_content_snapshot
#print axioms KeepAlive.c06_progress
#print axioms KeepAlive.c06_force_return_appended
#print axioms KeepAlive.c06_closure_done_appended
