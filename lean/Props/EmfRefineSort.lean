import Model.EmfRefine
/-!
`Emf.dimKeyOf = EmfSpec.sortKey`: the two models sort the per-metric dimension list with two different
insertion sorts (`foldl` + insert-after-equals with a strict test / `foldr` + insert-before-equals with a
non-strict test). Both produce THE sorted permutation under the same strict total order: the lexicographic `<` of
core on byte strings (`bytesLt_iff`) and, for a pair, on the two-element list `[name, value]` (`pairLt_iff`).
-/
namespace EmfRefine

/-- a strict total order given by a Boolean test -/
structure StrictTotal {α : Type} (lt : α → α → Bool) : Prop where
  asymm : ∀ a b, lt a b = true → lt b a = false
  tri : ∀ a b, lt a b = false → lt b a = false → a = b
  trans : ∀ a b c, lt a b = true → lt b c = true → lt a c = true

namespace StrictTotal
variable {α : Type} {lt : α → α → Bool}

/-- `a ≤ b ≤ c → a ≤ c` where `x ≤ y` is `lt y x = false` -/
theorem le_trans (h : StrictTotal lt) {a b c : α} (hab : lt b a = false) (hbc : lt c b = false) :
    lt c a = false := by
  cases hca : lt c a with
  | false => rfl
  | true =>
    cases hab' : lt a b with
    | true => have := h.trans c a b hca hab'; simp_all
    | false => have := h.tri a b hab' hab; subst this; simp_all

end StrictTotal

theorem StrictTotal.of_list_lt {α β : Type} [LT β] [Std.Asymm (α := β) (· < ·)] [Std.Trichotomous (α := β) (· < ·)]
    [Trans (α := β) (· < ·) (· < ·) (· < ·)] {lt : α → α → Bool} (key : α → List β)
    (hk : ∀ a b, key a = key b → a = b) (h : ∀ a b, lt a b = true ↔ key a < key b) : StrictTotal lt where
  asymm a b hab := Bool.eq_false_iff.mpr fun hba => List.lt_asymm ((h a b).mp hab) ((h b a).mp hba)
  tri a b hab hba := hk a b (List.le_antisymm (List.not_lt.mp (mt (h b a).mpr (Bool.eq_false_iff.mp hba)))
    (List.not_lt.mp (mt (h a b).mpr (Bool.eq_false_iff.mp hab))))
  trans a b c hab hbc := (h a c).mpr (List.lt_trans ((h a b).mp hab) ((h b c).mp hbc))

theorem bytesLt_iff (a b : List Nat) : Emf.bytesLt a b = true ↔ a < b := by
  induction a generalizing b with
  | nil => cases b <;> simp [Emf.bytesLt]
  | cons x xs ih =>
    cases b with
    | nil => simp [Emf.bytesLt]
    | cons y ys =>
      rw [Emf.bytesLt, List.cons_lt_cons_iff, ← ih]
      by_cases h1 : x < y
      · simp [h1]
      · by_cases h2 : y < x
        · simp [h1, h2]; omega
        · have : x = y := by omega
          simp [this]

theorem strLt_iff (a b : List Nat) : EmfSpec.strLt a b = true ↔ a < b := by
  induction a generalizing b with
  | nil => cases b <;> simp [EmfSpec.strLt]
  | cons x xs ih => cases b <;> simp [EmfSpec.strLt, List.cons_lt_cons_iff, ih]

theorem bytesLt_strictTotal : StrictTotal Emf.bytesLt :=
  .of_list_lt id (fun _ _ => id) bytesLt_iff

theorem pairLt_iff (a b : List Nat × List Nat) : Emf.pairLt a b = true ↔ [a.1, a.2] < [b.1, b.2] := by
  have B := bytesLt_strictTotal
  simp only [Emf.pairLt, List.cons_lt_cons_iff, ← bytesLt_iff, List.lt_irrefl, and_false, or_false]
  cases h1 : Emf.bytesLt a.1 b.1 with
  | true => simp
  | false =>
    cases h2 : Emf.bytesLt b.1 a.1 with
    | true =>
      simp only [Bool.false_eq_true, if_false, if_true, false_or, false_iff, not_and]
      intro e; rw [e] at h1 h2; rw [h1] at h2; cases h2
    | false => simp [B.tri _ _ h1 h2]

theorem pairLt_strictTotal : StrictTotal Emf.pairLt :=
  .of_list_lt (fun p => [p.1, p.2]) (fun a b h => by cases a; cases b; simp_all) pairLt_iff

theorem pairLe_eq (x y : List Nat × List Nat) : EmfSpec.pairLe x y = !Emf.pairLt y x := by
  rw [Bool.eq_iff_iff, Bool.not_eq_true', ← Bool.not_eq_true, pairLt_iff, List.not_lt, List.cons_le_cons_iff,
    List.cons_le_cons_iff]
  simp [EmfSpec.pairLe, strLt_iff, ← Bool.not_eq_true, List.le_iff_lt_or_eq]

section
variable {α : Type}

def insBy (t : α → α → Bool) (x : α) : List α → List α
  | [] => [x]
  | y :: ys => if t x y then x :: y :: ys else y :: insBy t x ys

theorem insBy_perm (t : α → α → Bool) (x : α) (l : List α) : (insBy t x l).Perm (x :: l) := by
  induction l with
  | nil => exact List.Perm.refl _
  | cons y ys ih =>
    simp only [insBy]
    split
    · exact List.Perm.refl _
    · exact (List.Perm.cons y ih).trans (List.Perm.swap x y ys)

theorem insBy_sorted {lt : α → α → Bool} (h : StrictTotal lt) (t : α → α → Bool)
    (ht : ∀ x y, t x y = true → lt y x = false) (hf : ∀ x y, t x y = false → lt x y = false)
    (x : α) (l : List α) (hl : l.Pairwise fun a b => lt b a = false) :
    (insBy t x l).Pairwise fun a b => lt b a = false := by
  induction l with
  | nil => simp [insBy]
  | cons y ys ih =>
    simp only [insBy]
    cases hxy : t x y with
    | true =>
      simp only [if_true]
      refine List.Pairwise.cons ?_ hl
      intro z hz
      rcases List.mem_cons.mp hz with rfl | hz
      · exact ht _ _ hxy
      · exact h.le_trans (ht _ _ hxy) (List.rel_of_pairwise_cons hl hz)
    | false =>
      simp only [Bool.false_eq_true, if_false]
      refine List.Pairwise.cons ?_ (ih hl.tail)
      intro z hz
      have := (insBy_perm t x ys).subset hz
      rcases List.mem_cons.mp this with rfl | hz
      · exact hf _ _ hxy
      · exact List.rel_of_pairwise_cons hl hz
end

theorem emf_insertSorted_eq (x : List Nat × List Nat) (l : Emf.DimKey) :
    Emf.insertSorted x l = insBy Emf.pairLt x l := by
  induction l with
  | nil => rfl
  | cons y ys ih => simp only [Emf.insertSorted, insBy, ih]

theorem spec_insertSorted_eq (x : List Nat × List Nat) (l : EmfSpec.Key) :
    EmfSpec.insertSorted x l = insBy (fun a b => !Emf.pairLt b a) x l := by
  induction l with
  | nil => rfl
  | cons y ys ih => simp only [EmfSpec.insertSorted, insBy, ih, pairLe_eq]

theorem sortKey_spec (l : EmfSpec.Key) :
    (EmfSpec.sortKey l).Perm l ∧ (EmfSpec.sortKey l).Pairwise fun a b => Emf.pairLt b a = false := by
  have P := pairLt_strictTotal
  induction l with
  | nil => exact ⟨List.Perm.refl _, List.Pairwise.nil⟩
  | cons x xs ih =>
    simp only [EmfSpec.sortKey, spec_insertSorted_eq]
    refine ⟨(insBy_perm _ _ _).trans (List.Perm.cons x ih.1), ?_⟩
    refine insBy_sorted P _ ?_ ?_ x _ ih.2
    · intro a b h; simpa using h
    · intro a b h
      have : Emf.pairLt b a = true := by simpa using h
      exact P.asymm _ _ this

theorem dimKeyOf_spec_aux (l acc : Emf.DimKey) (hacc : acc.Pairwise fun a b => Emf.pairLt b a = false) :
    (l.foldl (fun acc x => Emf.insertSorted x acc) acc).Perm (acc ++ l) ∧
    (l.foldl (fun acc x => Emf.insertSorted x acc) acc).Pairwise fun a b => Emf.pairLt b a = false := by
  have P := pairLt_strictTotal
  induction l generalizing acc with
  | nil => simpa using hacc
  | cons x xs ih =>
    simp only [List.foldl_cons]
    have hs : (Emf.insertSorted x acc).Pairwise fun a b => Emf.pairLt b a = false := by
      rw [emf_insertSorted_eq]
      refine insBy_sorted P _ ?_ ?_ x _ hacc
      · intro a b h; exact P.asymm _ _ h
      · intro a b h; exact h
    obtain ⟨h1, h2⟩ := ih _ hs
    refine ⟨h1.trans ?_, h2⟩
    rw [emf_insertSorted_eq]
    have := (insBy_perm Emf.pairLt x acc).append_right xs
    refine this.trans ?_
    simp only [List.cons_append]
    exact (List.perm_middle (a := x) (l₁ := acc) (l₂ := xs)).symm

theorem dimKeyOf_eq_sortKey (l : List (List Nat × List Nat)) : Emf.dimKeyOf l = EmfSpec.sortKey l := by
  have P := pairLt_strictTotal
  obtain ⟨p1, s1⟩ := dimKeyOf_spec_aux l [] List.Pairwise.nil
  obtain ⟨p2, s2⟩ := sortKey_spec l
  simp only [List.nil_append] at p1
  refine List.Perm.eq_of_pairwise (le := fun a b => Emf.pairLt b a = false) ?_ s1 s2 (p1.trans p2.symm)
  intro a b _ _ h1 h2
  exact P.tri _ _ h2 h1

end EmfRefine
